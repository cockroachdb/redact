import RedactVerif.Model.Escape
import RedactVerif.Proofs.Tokens
/-
The refinement between the byte-level scanner `escGo` (the Go loop) and its
token-level specification `escTok`, under the condition that no marker
straddles the boundary between the validated prefix and the suffix being
escaped. All byte-offset reasoning about escaping lives in this file.
-/
namespace Redact

theorem hasSuffix_iff (l suf : List Byte) : hasSuffix l suf = true ↔ suf <:+ l := by
  simp [hasSuffix]

theorem dropLast_append_three (x : List Byte) (a b c : Byte) : dropLast 3 (x ++ [a, b, c]) = x := by
  simp [dropLast]

theorem tokenize_append_startB (l : List Byte) : tokenize (l ++ startB) = tokenize l ++ [.s] := by
  simpa using tokenize_append_start l []

theorem tokenize_append_endB (l : List Byte) : tokenize (l ++ endB) = tokenize l ++ [.e] := by
  simpa using tokenize_append_end l []

/-- The last token's bytes are a suffix of `untok (tokenize l) = l`. -/
theorem bytes_suffix_of_getLast_tokenize {l : List Byte} {t : Tok}
    (h : (tokenize l).getLast? = some t) : t.bytes <:+ l := by
  obtain ⟨ts, hts⟩ := List.getLast?_eq_some_iff.1 h
  exact ⟨untok ts, by rw [← untok_tokenize l, hts, untok_append]; simp⟩

theorem getLast_tokenize_start (l : List Byte) :
    (tokenize l).getLast? = some .s ↔ startB <:+ l :=
  ⟨bytes_suffix_of_getLast_tokenize, fun ⟨x, hx⟩ => by simp [← hx, tokenize_append_startB]⟩

theorem getLast_tokenize_end (l : List Byte) :
    (tokenize l).getLast? = some .e ↔ endB <:+ l :=
  ⟨bytes_suffix_of_getLast_tokenize, fun ⟨x, hx⟩ => by simp [← hx, tokenize_append_endB]⟩

theorem tokenize_dropLast_start (l : List Byte) (h : startB <:+ l) :
    tokenize (dropLast 3 l) = (tokenize l).dropLast := by
  obtain ⟨x, rfl⟩ := h
  rw [tokenize_append_startB]; simp [startB, dropLast_append_three]

theorem tokenize_dropLast_end (l : List Byte) (h : endB <:+ l) :
    tokenize (dropLast 3 l) = (tokenize l).dropLast := by
  obtain ⟨x, rfl⟩ := h
  rw [tokenize_append_endB]; simp [endB, dropLast_append_three]

theorem straddles_snoc_q (out r : List Byte) : straddles (out ++ [0x3F]) r = false := by
  simp [straddles]

theorem straddles_start (out r : List Byte) : straddles (out ++ startB) r = false := by
  simp [straddles, startB]

theorem straddles_nil (out : List Byte) : straddles out [] = false := by
  unfold straddles; split <;> simp_all

theorem straddles_step (out : List Byte) (x : Byte) (r : List Byte)
    (h : straddles out (x :: r) = false)
    (h1 : ∀ r', x = 0xE2 → r = 0x80 :: 0xB9 :: r' → False)
    (h2 : ∀ r', x = 0xE2 → r = 0x80 :: 0xBA :: r' → False) :
    straddles (out ++ [x]) r = false := by
  unfold straddles at *
  simp only [List.reverse_append, List.reverse_cons, List.reverse_nil, List.nil_append, List.singleton_append] at *
  split
  · rename_i heq; simp at heq; exact (h1 _ heq.1 rfl).elim
  · rename_i heq; simp at heq; exact (h2 _ heq.1 rfl).elim
  · rename_i heq; simp at heq; obtain ⟨hx, ht⟩ := heq; subst hx; rw [ht] at h; simp at h
  · rename_i heq; simp at heq; obtain ⟨hx, ht⟩ := heq; subst hx; rw [ht] at h; simp at h
  · rfl

theorem snoc_ok_of_not_straddles (out : List Byte) (x : Byte) (r : List Byte)
    (h : straddles out (x :: r) = false) :
    ¬ ((∃ t, out.reverse = 0x80 :: 0xE2 :: t) ∧ (x = 0xB9 ∨ x = 0xBA)) := by
  rintro ⟨⟨t, ht⟩, hx⟩
  unfold straddles at h
  rw [ht] at h
  rcases hx with rfl | rfl <;> simp at h

/-- **Refinement**: on inputs without a marker straddling the boundary, the
byte-level scanner computes the token-level specification. -/
theorem escGo_refines (nl : Bool) (out rest : List Byte) (h : straddles out rest = false) :
    tokenize (escGo nl out rest) = escTok nl (tokenize out) (tokenize rest) := by
  fun_induction escGo nl out rest with
  | case1 out => simp [escTok]
  | case2 out r ih =>
    rw [ih (by simpa [escB] using straddles_snoc_q out r)]
    simp only [tokenize_start, escTok, escB]
    rw [tokenize_snoc out 0x3F (by simp)]
  | case3 out r ih =>
    rw [ih (by simpa [escB] using straddles_snoc_q out r)]
    simp only [tokenize_end, escTok, escB]
    rw [tokenize_snoc out 0x3F (by simp)]
  | case4 out x r h1 h2 hnl out' ih =>
    -- line feed with line breaking
    have hx : x = LF := by simp at hnl; exact hnl.2
    subst hx
    rw [tokenize_plain LF r h1 h2]
    simp only [escTok, hnl, if_true]
    rw [ih (straddles_start _ r)]
    congr 1
    show tokenize ((if hasSuffix out startB = true then dropLast 3 out else out ++ endB) ++ [LF] ++ startB) = _
    rw [tokenize_append_startB]
    simp only [hasSuffix_iff, ← getLast_tokenize_start]
    split
    · rw [tokenize_snoc _ LF (by simp [LF]),
        tokenize_dropLast_start out ((getLast_tokenize_start out).1 ‹_›)]
      simp
    · rw [tokenize_snoc _ LF (by simp [LF]), tokenize_append_endB]
      simp
  | case5 out x r h1 h2 hnl ih =>
    rw [tokenize_plain x r h1 h2]
    simp only [escTok]
    rw [if_neg (by simpa using hnl)]
    rw [ih (straddles_step out x r h h1 h2), tokenize_snoc out x (snoc_ok_of_not_straddles out x r h)]

end Redact
