import RedactVerif.Proofs.Sim
/-
Fuel is a proof device: every function of the printer model, given more fuel, returns what it
returned with less — unless the smaller amount ran out (`mspec_all`; the order `⊑` has `.fuel` as
its least element). An instance of the fundamental lemma (Proofs/Sim.lean): two runs from the same
state, the second with one more unit of fuel, in a logic that lets the first run out.
-/
namespace Redact

def Res.le (a b : Res) : Prop := a = .fuel ∨ a = b
def SRes.le (a b : SRes) : Prop := a = .abort .fuel ∨ a = b
/-- Results of the dispatch functions: when the fuel ran out the value counts as handled. -/
def BR.le (a b : Bool × Res) : Prop := (a.2 = .fuel ∧ a.1 = true) ∨ a = b

scoped infix:50 " ⊑ " => Res.le
scoped infix:50 " ⊑ₛ " => SRes.le
scoped infix:50 " ⊑ₕ " => BR.le

theorem Res.le_refl (a : Res) : a ⊑ a := Or.inr rfl
theorem Res.fuel_le (a : Res) : Res.fuel ⊑ a := Or.inl rfl
theorem SRes.le_refl (a : SRes) : a ⊑ₛ a := Or.inr rfl
theorem BR.le_refl (a : Bool × Res) : a ⊑ₕ a := Or.inr rfl

theorem le_ite_s {c : Prop} [Decidable c] {a b a' b' : SRes} (ha : a ⊑ₛ a') (hb : b ⊑ₛ b') :
    (if c then a else b) ⊑ₛ (if c then a' else b') := by
  split <;> assumption

theorem le_handled {x x' : Bool × Res} {k k' : Res} (hx : x ⊑ₕ x') (hk : k ⊑ k') :
    (match x with | (true, r) => r | (false, _) => k) ⊑ (match x' with | (true, r) => r | (false, _) => k') := by
  rcases hx with ⟨h2, h1⟩ | rfl
  · obtain ⟨b, r⟩ := x
    simp only at h1 h2
    subst h1 h2
    exact Or.inl rfl
  · obtain ⟨b, r⟩ := x
    cases b
    · exact hk
    · exact Or.inr rfl

theorem le_raised_or {c : Bool} {p : PP} {a a' : SRes} (h : a ⊑ₛ a') :
    (if c = true then SRes.raised p .nil else a) ⊑ₛ (if c = true then SRes.raised p .nil else a') := le_ite_s (SRes.le_refl _) h

structure MSpec (env : Env) (n : Nat) : Prop where
  printArg : ∀ p v verb, printArg env n p v verb ⊑ printArg env (n + 1) p v verb
  printArgBody : ∀ p v verb, printArgBody env n p v verb ⊑ printArgBody env (n + 1) p v verb
  badVerb : ∀ p v verb via, badVerb env n p v verb via ⊑ badVerb env (n + 1) p v verb via
  handleMethods : ∀ p v verb, handleMethods env n p v verb ⊑ₕ handleMethods env (n + 1) p v verb
  methDispatch : ∀ p v ms nr ret sc verb, methDispatch env n p v ms nr ret sc verb ⊑ₕ methDispatch env (n + 1) p v ms nr ret sc verb
  fmtString : ∀ p v ret verb, fmtString env n p v ret verb ⊑ fmtString env (n + 1) p v ret verb
  catchPanic : ∀ (p0 : PP) (arg : Val) (verb : Nat) (m : List Byte) (nr : Bool) (out out' : SRes), out ⊑ₛ out' →
    catchPanic env n p0 arg verb m nr out ⊑ catchPanic env (n + 1) p0 arg verb m nr out'
  runScript : ∀ p sc, runScript env n p sc ⊑ₛ runScript env (n + 1) p sc
  printValue : ∀ p v verb d ro, printValue env n p v verb d ro ⊑ printValue env (n + 1) p v verb d ro
  printSlot : ∀ p v verb d i ro, printSlot env n p v verb d i ro ⊑ printSlot env (n + 1) p v verb d i ro
  slotMethods : ∀ p v verb, slotMethods env n p v verb ⊑ₕ slotMethods env (n + 1) p v verb
  printFields : ∀ p fs verb d ro f, printFields env n p fs verb d ro f ⊑ printFields env (n + 1) p fs verb d ro f
  printElems : ∀ p vs verb d i ro f, printElems env n p vs verb d i ro f ⊑ printElems env (n + 1) p vs verb d i ro f
  printPairs : ∀ p ks vs verb d ik iv ro f, printPairs env n p ks vs verb d ik iv ro f ⊑ printPairs env (n + 1) p ks vs verb d ik iv ro f
  doPrint : ∀ p args, doPrint env n p args ⊑ doPrint env (n + 1) p args
  doPrintLoop : ∀ p args k ps, doPrintLoop env n p args k ps ⊑ doPrintLoop env (n + 1) p args k ps
  doPrintf : ∀ p f args, doPrintf env n p f args ⊑ doPrintf env (n + 1) p f args
  fmtLoop : ∀ p f args k ai, fmtLoop env n p f args k ai ⊑ fmtLoop env (n + 1) p f args k ai
  directiveTail : ∀ p f args k ai, directiveTail env n p f args k ai ⊑ directiveTail env (n + 1) p f args k ai
  finishPrintf : ∀ p args k, finishPrintf env n p args k ⊑ finishPrintf env (n + 1) p args k
  extraLoop : ∀ p args f, extraLoop env n p args f ⊑ extraLoop env (n + 1) p args f

def fuelLogic (env : Env) : LogicF Unit env env where
  toOperands := .any env
  R _ p p' := p' = p
  T _ _ _ q q' := q' = q
  TD _ _ _ q q' := q' = q
  Pn _ _ b b' := b' = b
  lag := True
  hook_eq := rfl
  messager _ _ _ := trivial
  f_eq h := by rw [h]
  erroring_eq h := by rw [h]
  panicking_eq h := by rw [h]
  wrap_eq h _ := by rw [h]; exact ⟨rfl, rfl⟩
  dispatch h _ := sameDispatch_of_eq (by rw [h]) _
  ovUnsafe_redactable h _ := by rw [h]
  reordered_eq h := by rw [h]
  goodArgNum_eq h := by rw [h]
  refl h := h
  trans _ h := h
  pre _ h := h
  Pn_trans _ h := h
  Pn_of_T h := by rw [h]
  w h _ := by rw [h]
  wb h _ := by rw [h]
  wr _ h := by rw [h]
  setF _ h := by rw [h]
  setPanicking _ h := by rw [h]
  setWrapped _ _ h _ := by rw [h]
  setWrappedErr _ h _ := by rw [h]
  setReordered _ h := by rw [h]
  setGood _ h := by rw [h]
  err_enter h := by rw [h]
  err_exit _ h := by rw [h]
  Starts := IsStart
  starts_safeOverride := .safeOverride
  starts_unsafe := .unsafeMode
  starts_unsafeOverride _ := .unsafeOverride
  val_leave _ _ := trivial
  start_in _ h := by rw [h]
  start_out _ h g := by rw [h, g]
  start_pn _ h hb := by rw [h, hb]
  redactable h _ := by rw [h]
  nested_in h := by rw [h]
  nested_out h g := by rw [h, g]
  nested_pn h hb := by rw [h, hb]
  setSafe_in h := by rw [h]
  setSafe_out _ g := g
  setSafe_pn _ hb := hb

section
variable {env : Env} {p p' : PP}

theorem le_of_rel {r r' : Res} (h : (fuelLogic env).RelR () p p' r r') : r ⊑ r' := by
  cases h with
  | ok h => exact Or.inr (by rw [h])
  | panic hb _ => exact Or.inr (by rw [hb])
  | fuel | unsupported => exact Or.inr rfl
  | lagL => exact Or.inl rfl

theorem le_of_relD {r r' : Res} (h : (fuelLogic env).RelD () p p' r r') : r ⊑ r' :=
  le_of_rel (h.relR id)

theorem le_of_relS {o o' : SRes} (h : (fuelLogic env).RelS () p p' o o') : o ⊑ₛ o' := by
  cases h with
  | ok h => exact Or.inr (by rw [h])
  | raised h _ => exact Or.inr (by rw [h])
  | abort h =>
    rcases le_of_rel h with h | h
    · exact Or.inl (by rw [h])
    · exact Or.inr (by rw [h])
  | lagL => exact Or.inl rfl

theorem le_of_relH {a a' : Bool × Res} (h : (fuelLogic env).RelH () p p' a a') : a ⊑ₕ a' := by
  cases h with
  | handled h =>
    rcases le_of_rel h with h | h
    · exact Or.inl ⟨h, rfl⟩
    · exact Or.inr (by rw [h])
  | declined h => exact Or.inr (by rw [h])
  | lagL => exact Or.inl ⟨rfl, rfl⟩

theorem rel_of_leS {o o' : SRes} (h : o ⊑ₛ o') : (fuelLogic env).RelS () p p o o' := by
  rcases h with rfl | rfl
  · exact .lagL trivial
  · cases o with
    | ok q => exact .ok rfl
    | raised q pl => exact .raised rfl trivial
    | abort r =>
      cases r with
      | ok q => exact .abort (.ok rfl)
      | panic b pl => exact .abort (.panic rfl trivial)
      | fuel => exact .abort .fuel
      | unsupported => exact .abort .unsupported

end

theorem mspec_all (env : Env) : ∀ n, MSpec env n := by
  intro n
  obtain ⟨A, B⟩ := LogicF.sim_lag (fuelLogic env) .same (fun _ h => h) trivial 1 n
  rw [Nat.add_comm 1 n] at A B
  have L := Operands.any_list env
  exact {
    printArg := fun p v verb => le_of_rel (A.printArg () p p v verb rfl trivial trivial)
    printArgBody := fun p v verb => le_of_rel (A.printArgBody () p p v verb rfl trivial trivial)
    badVerb := fun p v verb via => le_of_rel (A.badVerb () p p v verb via rfl trivial)
    handleMethods := fun p v verb => le_of_relH (A.handleMethods () p p v verb rfl trivial trivial)
    methDispatch := fun p v ms nr ret sc verb => le_of_relH (A.methDispatch () p p v ms nr ret sc verb rfl trivial trivial trivial)
    fmtString := fun p v ret verb => le_of_rel (A.fmtString () p p v ret verb rfl (fun _ => trivial) trivial)
    catchPanic := fun p0 arg verb m nr out out' h =>
      le_of_rel (A.catchPanic () p0 p0 p0 p0 arg verb m nr out out' rfl trivial (rel_of_leS h))
    runScript := fun p sc => le_of_relS (A.runScript () p p sc rfl trivial)
    printValue := fun p v verb d ro => le_of_rel (A.printValue () p p v verb d ro rfl trivial trivial)
    printSlot := fun p v verb d i ro => le_of_rel (A.printSlot () p p v verb d i ro rfl trivial trivial)
    slotMethods := fun p v verb => le_of_relH (A.slotMethods () p p v verb rfl trivial trivial)
    printFields := fun p fs verb d ro f => le_of_rel (A.printFields () p p fs verb d ro f rfl trivial trivial)
    printElems := fun p vs verb d i ro f => le_of_rel (A.printElems () p p vs verb d i ro f rfl trivial trivial)
    printPairs := fun p ks vs verb d ik iv ro f => le_of_rel (A.printPairs () p p ks vs verb d ik iv ro f rfl trivial trivial trivial)
    doPrint := fun p args => le_of_relD (A.doPrint () p p args rfl (L _))
    doPrintLoop := fun p args k ps => le_of_rel (A.doPrintLoop () p p args k ps rfl (L _))
    doPrintf := fun p f args => le_of_relD (B.doPrintf () p p f args rfl trivial (L _))
    fmtLoop := fun p f args k ai => le_of_rel (B.fmtLoop () p p f args k ai rfl trivial (L _))
    directiveTail := fun p f args k ai => le_of_rel (B.directiveTail () p p f args k ai rfl trivial (L _))
    finishPrintf := fun p args k => le_of_rel (B.finishPrintf () p p args k rfl (L _))
    extraLoop := fun p args f => le_of_rel (B.extraLoop () p p args f rfl (L _)) }

theorem Res.le_trans {a b c : Res} (h1 : a ⊑ b) (h2 : b ⊑ c) : a ⊑ c := by
  rcases h1 with rfl | rfl
  · exact Or.inl rfl
  · exact h2

/-- **A result that is not "out of fuel" does not depend on the fuel**: `doPrint` (Sprint, Fprint, nested Print). -/
theorem doPrint_fuel (env : Env) (n : Nat) (p : PP) (args : List Val) (r : Res) (h : doPrint env n p args = r) (hr : r ≠ .fuel) :
    ∀ k, doPrint env (n + k) p args = r := by
  intro k
  induction k with
  | zero => exact h
  | succ k ih =>
    rcases (mspec_all env (n + k)).doPrint p args with hf | he
    · rw [ih] at hf; exact absurd hf hr
    · rw [← Nat.add_assoc] at *; rw [← he]; exact ih

/-- The same for `doPrintf` (Sprintf, Fprintf, HelperForErrorf, nested Printf). -/
theorem doPrintf_fuel (env : Env) (n : Nat) (p : PP) (f : List Byte) (args : List Val) (r : Res)
    (h : doPrintf env n p f args = r) (hr : r ≠ .fuel) : ∀ k, doPrintf env (n + k) p f args = r := by
  intro k
  induction k with
  | zero => exact h
  | succ k ih =>
    rcases (mspec_all env (n + k)).doPrintf p f args with hf | he
    · rw [ih] at hf; exact absurd hf hr
    · rw [← Nat.add_assoc] at *; rw [← he]; exact ih

theorem doPrintLoop_fuel (env : Env) (n : Nat) (p : PP) (args : List Val) (a : Nat) (b : Bool) (r : Res)
    (h : doPrintLoop env n p args a b = r) (hr : r ≠ .fuel) : ∀ k, doPrintLoop env (n + k) p args a b = r := by
  intro k
  induction k with
  | zero => exact h
  | succ k ih =>
    rcases (mspec_all env (n + k)).doPrintLoop p args a b with hf | he
    · rw [ih] at hf; exact absurd hf hr
    · rw [← Nat.add_assoc] at *; rw [← he]; exact ih

end Redact
