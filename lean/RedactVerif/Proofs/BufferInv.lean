import RedactVerif.Model.Buffer
import RedactVerif.Proofs.Good
/-
The buffer invariant `Inv` and its preservation by every operation of
`internal/buffer/buffer.go` (as modelled in `Model/Buffer.lean`).
-/
namespace Redact

namespace Buffer
/-- The already validated prefix `b.buf[:validUntil]`. -/
def pre (b : Buffer) : List Byte := b.buf.take b.validUntil
/-- The pending, not yet escaped bytes `b.buf[validUntil:]`. -/
def suf (b : Buffer) : List Byte := b.buf.drop b.validUntil
end Buffer

structure Inv (b : Buffer) : Prop where
  le : b.validUntil ≤ b.buf.length
  good : goodT (tokenize b.pre) = true
  sc : scan (tokenize b.pre) = some b.markerOpen
  openMode : b.markerOpen = true → b.mode = .unsafeEsc
  closedEmpty : b.mode = .unsafeEsc → b.markerOpen = false → b.suf = []
  raw : b.mode = .raw → Obtainable b.suf

theorem obtainable_nil : Obtainable [] := by decide

theorem inv_init : Inv Buffer.init := by
  constructor <;> simp [Buffer.init, Buffer.pre, Buffer.suf, scan, scanFrom, goodT_nil]

theorem scanFrom_q (o : Bool) : scanFrom o [.b 0x3F] = some o := by
  cases o <;> simp [scanFrom, LF]

theorem obtainable_append {a b : List Byte} (ha : Obtainable a) (hb : Obtainable b) : Obtainable (a ++ b) := by
  have hs := not_straddles_of_goodT a b ha.1
  rw [Obtainable, tokenize_append_of_not_straddles a b hs]
  exact ⟨goodT_append _ _ ha.1 hb.1, by rw [scan_append, ha.2]; exact hb.2⟩

structure FullOK (b : Buffer) (o : Bool) : Prop where
  full : b.validUntil = b.buf.length
  good : goodT (tokenize b.buf) = true
  sc : scan (tokenize b.buf) = some o

theorem pre_of_full {b : Buffer} (h : b.validUntil = b.buf.length) : b.pre = b.buf := by
  simp [Buffer.pre, h]

theorem suf_of_full {b : Buffer} (h : b.validUntil = b.buf.length) : b.suf = [] := by
  simp [Buffer.suf, h]

theorem full_of_suf_nil {b : Buffer} (hle : b.validUntil ≤ b.buf.length) (h : b.suf = []) :
    b.validUntil = b.buf.length := by
  simp [Buffer.suf] at h
  omega

/-- How `escapeToEnd` can find the buffer: in an open envelope (unsafe mode only), in unsafe mode
with nothing pending, or closed in another mode. -/
theorem Inv.esc_cases {b : Buffer} (hi : Inv b) :
    (b.mode = .unsafeEsc ∧ b.markerOpen = true) ∨ (b.mode = .unsafeEsc ∧ b.markerOpen = false ∧ b.suf = []) ∨
      (b.mode ≠ .unsafeEsc ∧ b.markerOpen = false) := by
  cases ho : b.markerOpen with
  | true => exact Or.inl ⟨hi.openMode ho, rfl⟩
  | false =>
    by_cases hu : b.mode = .unsafeEsc
    · exact Or.inr (Or.inl ⟨hu, rfl, hi.closedEmpty hu ho⟩)
    · exact Or.inr (Or.inr ⟨hu, rfl⟩)

theorem tokenize_escapeToEnd (b : Buffer) (hi : Inv b) (nl : Bool) :
    tokenize (b.escapeToEnd nl).buf =
      if tailBad b.buf then escTok nl (tokenize b.pre) (tokenize b.suf) ++ [.b 0x3F]
      else escTok nl (tokenize b.pre) (tokenize b.suf) :=
  (escapeBytesAt_spec b.buf b.validUntil nl hi.good).1

theorem escapeToEnd_full (b : Buffer) (hi : Inv b) :
    let b' := b.escapeToEnd (b.mode = .unsafeEsc)
    FullOK b' b.markerOpen ∧ b'.mode = b.mode ∧ b'.markerOpen = b.markerOpen := by
  refine ⟨⟨rfl, (escapeBytesAt_spec b.buf b.validUntil _ hi.good).2, ?_⟩, rfl, rfl⟩
  have hsc : scan (tokenize b.pre) = some b.markerOpen := hi.sc
  have hR : scan (escTok (decide (b.mode = .unsafeEsc)) (tokenize b.pre) (tokenize b.suf)) = some b.markerOpen := by
    rcases hi.esc_cases with ⟨hu, ho⟩ | ⟨hu, ho, hs⟩ | ⟨hu, ho⟩ <;> rw [ho] at hsc ⊢
    · simpa [hu] using scan_escTok_open _ _ hsc
    · simpa [hs, escTok] using hsc
    · simpa [hu] using scan_escTok_closed _ _ hsc
  rw [tokenize_escapeToEnd b hi]
  split
  · rw [scan_append, hR]; simp [scanFrom_q]
  · exact hR

theorem tokens_ne_nil_of_scan_true {t : List Tok} (h : scan t = some true) : t ≠ [] := by
  intro ht; subst ht; simp [scan, scanFrom] at h

/-! `endRedactable` and `startRedactable` cancel a trailing marker of the other kind or append
their own. What does not see a trailing marker (`goodT`, and the readings of Plain.lean and
Lab.lean) does not see them at all. -/

theorem blind_cancel {α : Sort _} {f : List Tok → α} (hf : ∀ t m, m.isMarker = true → f (t ++ [m]) = f t)
    {x y : Tok} (hx : x.isMarker = true) (hy : y.isMarker = true) (t : List Tok) :
    f (if t.getLast? = some x then t.dropLast else t ++ [y]) = f t := by
  split
  · rename_i hl
    conv => rhs; rw [eq_dropLast_append_of_getLast hl, hf _ _ hx]
  · exact hf _ _ hy

theorem scan_close {t : List Tok} (h : scan t = some true) :
    scan (if t.getLast? = some .s then t.dropLast else t ++ [.e]) = some false := by
  split
  · rename_i hl
    exact scan_of_snoc_s (by rw [← eq_dropLast_append_of_getLast hl]; exact h)
  · rw [scan_append, h]; rfl

theorem scan_open {t : List Tok} (h : scan t = some false) :
    scan (if t.getLast? = some .e then t.dropLast else t ++ [.s]) = some true := by
  split
  · rename_i hl
    exact scan_of_snoc_e (by rw [← eq_dropLast_append_of_getLast hl]; exact h)
  · rw [scan_append, h]; rfl

theorem tokenize_endRedactable (b : Buffer) (h : scan (tokenize b.buf) = some true) :
    tokenize b.endRedactable.buf =
      if (tokenize b.buf).getLast? = some .s then (tokenize b.buf).dropLast else tokenize b.buf ++ [.e] := by
  have hemp : b.buf.isEmpty = false := by
    cases hb : b.buf with
    | nil => rw [hb] at h; cases h
    | cons _ _ => rfl
  have hl := (getLast_tokenize_start b.buf).trans (hasSuffix_iff _ _).symm
  by_cases hs : hasSuffix b.buf startB = true
  · rw [if_pos (hl.2 hs), ← tokenize_dropLast_start _ ((hasSuffix_iff _ _).1 hs)]
    simp [Buffer.endRedactable, hemp, hs]
  · rw [if_neg (mt hl.1 hs), ← tokenize_append_endB]
    simp [Buffer.endRedactable, hemp, hs]

theorem tokenize_startRedactable (b : Buffer) :
    tokenize b.startRedactable.buf =
      if (tokenize b.buf).getLast? = some .e then (tokenize b.buf).dropLast else tokenize b.buf ++ [.s] := by
  have hl := (getLast_tokenize_end b.buf).trans (hasSuffix_iff _ _).symm
  by_cases hs : hasSuffix b.buf endB = true
  · rw [if_pos (hl.2 hs), ← tokenize_dropLast_end _ ((hasSuffix_iff _ _).1 hs)]
    simp [Buffer.startRedactable, hs]
  · rw [if_neg (mt hl.1 hs), ← tokenize_append_startB]
    simp [Buffer.startRedactable, hs]

theorem blind_endRedactable {α : Sort _} {f : List Tok → α} (hf : ∀ t m, m.isMarker = true → f (t ++ [m]) = f t)
    (b : Buffer) (h : scan (tokenize b.buf) = some true) : f (tokenize b.endRedactable.buf) = f (tokenize b.buf) := by
  rw [tokenize_endRedactable b h]; exact blind_cancel hf rfl rfl _

theorem blind_startRedactable {α : Sort _} {f : List Tok → α} (hf : ∀ t m, m.isMarker = true → f (t ++ [m]) = f t)
    (b : Buffer) : f (tokenize b.startRedactable.buf) = f (tokenize b.buf) := by
  rw [tokenize_startRedactable b]; exact blind_cancel hf rfl rfl _

theorem endRedactable_mode (b : Buffer) : b.endRedactable.mode = b.mode := by
  unfold Buffer.endRedactable
  split
  · rfl
  · split <;> rfl

theorem startRedactable_mode (b : Buffer) : b.startRedactable.mode = b.mode := by
  unfold Buffer.startRedactable; split <;> rfl

theorem startRedactable_markerOpen (b : Buffer) : b.startRedactable.markerOpen = true := by
  unfold Buffer.startRedactable; split <;> rfl

theorem endRedactable_full (b : Buffer) (h : FullOK b true) :
    let b' := b.endRedactable
    goodT (tokenize b'.buf) = true ∧ scan (tokenize b'.buf) = some false ∧ b'.markerOpen = false ∧ b'.mode = b.mode := by
  refine ⟨(blind_endRedactable goodT_snoc_marker b h.sc).trans h.good,
    by rw [tokenize_endRedactable b h.sc]; exact scan_close h.sc, ?_, endRedactable_mode b⟩
  have hne : b.buf ≠ [] := fun hb => tokens_ne_nil_of_scan_true h.sc (by rw [hb]; rfl)
  unfold Buffer.endRedactable
  split
  · simp_all
  · split <;> rfl

theorem startRedactable_full (b : Buffer) (h : FullOK b false) :
    let b' := b.startRedactable
    goodT (tokenize b'.buf) = true ∧ scan (tokenize b'.buf) = some true ∧ b'.markerOpen = true ∧ b'.mode = b.mode :=
  ⟨(blind_startRedactable goodT_snoc_marker b).trans h.good,
    by rw [tokenize_startRedactable b]; exact scan_open h.sc, startRedactable_markerOpen b, startRedactable_mode b⟩

theorem inv_of_full (b : Buffer) (h : FullOK b b.markerOpen) (hm : b.markerOpen = true → b.mode = .unsafeEsc) : Inv b :=
  ⟨Nat.le_of_eq h.full, by rw [pre_of_full h.full]; exact h.good, by rw [pre_of_full h.full]; exact h.sc, hm,
    fun _ _ => suf_of_full h.full, fun _ => by rw [suf_of_full h.full]; exact obtainable_nil⟩

theorem inv_of_full_closed (b : Buffer) (h : FullOK b false) (ho : b.markerOpen = false) : Inv b :=
  inv_of_full b (ho ▸ h) (by simp [ho])

theorem tokenize_buf (b : Buffer) (hi : Inv b) : tokenize b.buf = tokenize b.pre ++ tokenize b.suf := by
  rw [← tokenize_append_of_not_straddles _ _ (not_straddles_of_goodT _ _ hi.good)]
  simp [Buffer.pre, Buffer.suf]

/-- Leaving raw mode (or finalising in it): the pending fragments join the validated prefix. -/
theorem full_of_raw (b : Buffer) (hi : Inv b) (hm : b.mode = .raw) :
    FullOK { b with validUntil := b.buf.length } false ∧ b.markerOpen = false := by
  have ho : b.markerOpen = false := by
    cases h : b.markerOpen with
    | false => rfl
    | true => have := hi.openMode h; rw [hm] at this; cases this
  have hob := hi.raw hm
  refine ⟨⟨rfl, ?_, ?_⟩, ho⟩
  · show goodT (tokenize b.buf) = true
    rw [tokenize_buf b hi]; exact goodT_append _ _ hi.good hob.1
  · show scan (tokenize b.buf) = some false
    rw [tokenize_buf b hi, scan_append, hi.sc, ho]; exact hob.2

theorem escapeToEnd_markerOpen (b : Buffer) (nl : Bool) : (b.escapeToEnd nl).markerOpen = b.markerOpen := rfl
theorem escapeToEnd_mode (b : Buffer) (nl : Bool) : (b.escapeToEnd nl).mode = b.mode := rfl

theorem finalize_raw (b : Buffer) (hm : b.mode = .raw) (ho : b.markerOpen = false) :
    b.finalize = { b with validUntil := b.buf.length } := by
  simp [Buffer.finalize, hm, ho]

theorem finalize_esc_closed (b : Buffer) (hm : b.mode ≠ .raw) (ho : b.markerOpen = false) :
    b.finalize = b.escapeToEnd (decide (b.mode = .unsafeEsc)) := by
  simp [Buffer.finalize, hm, escapeToEnd_markerOpen, ho]

theorem finalize_esc_open (b : Buffer) (hm : b.mode ≠ .raw) (ho : b.markerOpen = true) :
    b.finalize = { (b.escapeToEnd (decide (b.mode = .unsafeEsc))).endRedactable with
      validUntil := (b.escapeToEnd (decide (b.mode = .unsafeEsc))).endRedactable.buf.length } := by
  simp [Buffer.finalize, hm, escapeToEnd_markerOpen, ho]

theorem finalize_full (b : Buffer) (hi : Inv b) :
    FullOK b.finalize false ∧ b.finalize.markerOpen = false ∧ b.finalize.mode = b.mode := by
  by_cases hm : b.mode = .raw
  · have ⟨hf, ho⟩ := full_of_raw b hi hm
    rw [finalize_raw b hm ho]
    exact ⟨hf, ho, rfl⟩
  · have ⟨hf, hmode, hopen⟩ := escapeToEnd_full b hi
    cases ho : b.markerOpen with
    | false =>
      rw [finalize_esc_closed b hm ho]
      rw [ho] at hf hopen
      exact ⟨hf, hopen, hmode⟩
    | true =>
      rw [finalize_esc_open b hm ho]
      rw [ho] at hf
      have ⟨hg, hs, hmo, hmd⟩ := endRedactable_full _ hf
      exact ⟨⟨rfl, hg, hs⟩, hmo, by show (Buffer.endRedactable _).mode = b.mode; rw [hmd, hmode]⟩

theorem inv_finalize (b : Buffer) (hi : Inv b) : Inv b.finalize := by
  have ⟨hf, ho, _⟩ := finalize_full b hi
  exact inv_of_full_closed _ hf ho

/-- Every string handed out by the buffer is an obtainable redactable. -/
theorem obtainable_finalize (b : Buffer) (hi : Inv b) : Obtainable b.finalize.buf :=
  let ⟨hf, _, _⟩ := finalize_full b hi
  ⟨hf.good, hf.sc⟩

theorem setMode_same (b : Buffer) (m : Mode) (h : b.mode = m) : b.setMode m = b := by
  simp [Buffer.setMode, h]

theorem setMode_raw (b : Buffer) (m : Mode) (hne : b.mode ≠ m) (hm : b.mode = .raw) (ho : b.markerOpen = false) :
    b.setMode m = { b with validUntil := b.buf.length, mode := m } := by
  have : ¬ (Mode.raw = m) := by rw [← hm]; exact hne
  simp [Buffer.setMode, hm, ho, this]

theorem setMode_esc_closed (b : Buffer) (m : Mode) (hne : b.mode ≠ m) (hm : b.mode ≠ .raw) (ho : b.markerOpen = false) :
    b.setMode m = { b.escapeToEnd (decide (b.mode = .unsafeEsc)) with
      validUntil := (b.escapeToEnd (decide (b.mode = .unsafeEsc))).buf.length, mode := m } := by
  have hesc : b.mode = .unsafeEsc ∨ b.mode = .safeEsc := by
    cases hmm : b.mode <;> simp_all
  simp [Buffer.setMode, hne, hesc, escapeToEnd_markerOpen, ho]

theorem setMode_esc_open (b : Buffer) (m : Mode) (hne : b.mode ≠ m) (hm : b.mode ≠ .raw) (ho : b.markerOpen = true) :
    b.setMode m = { (b.escapeToEnd (decide (b.mode = .unsafeEsc))).endRedactable with
      validUntil := (b.escapeToEnd (decide (b.mode = .unsafeEsc))).endRedactable.buf.length, mode := m } := by
  have hesc : b.mode = .unsafeEsc ∨ b.mode = .safeEsc := by
    cases hmm : b.mode <;> simp_all
  simp [Buffer.setMode, hne, hesc, escapeToEnd_markerOpen, ho]

theorem inv_setMode (b : Buffer) (m : Mode) (hi : Inv b) : Inv (b.setMode m) := by
  by_cases hsame : b.mode = m
  · rw [setMode_same b m hsame]; exact hi
  · by_cases hm : b.mode = .raw
    · have ⟨hf, ho⟩ := full_of_raw b hi hm
      rw [setMode_raw b m hsame hm ho]
      exact inv_of_full_closed _ ⟨rfl, hf.good, hf.sc⟩ ho
    · have ⟨hf, hmode, hopen⟩ := escapeToEnd_full b hi
      cases ho : b.markerOpen with
      | false =>
        rw [setMode_esc_closed b m hsame hm ho]
        rw [ho] at hf hopen
        exact inv_of_full_closed _ ⟨rfl, hf.good, hf.sc⟩ hopen
      | true =>
        rw [setMode_esc_open b m hsame hm ho]
        rw [ho] at hf
        have ⟨hg, hs, hmo, _⟩ := endRedactable_full _ hf
        exact inv_of_full_closed _ ⟨rfl, hg, hs⟩ hmo

theorem startWrite_open (b : Buffer) (hc : b.mode = .unsafeEsc ∧ b.markerOpen = false) :
    b.startWrite = { b.startRedactable with validUntil := b.startRedactable.buf.length } := by
  simp [Buffer.startWrite, hc]

theorem startWrite_noop (b : Buffer) (hc : ¬ (b.mode = .unsafeEsc ∧ b.markerOpen = false)) :
    b.startWrite = b := by
  simp only [Buffer.startWrite, hc, if_false]

theorem startWrite_mode (b : Buffer) : b.startWrite.mode = b.mode := by
  unfold Buffer.startWrite
  split
  · exact startRedactable_mode b
  · rfl

/-- `startWrite` opens an envelope when needed; afterwards pending bytes may be appended. -/
theorem inv_startWrite (b : Buffer) (hi : Inv b) :
    Inv b.startWrite ∧ b.startWrite.mode = b.mode ∧ ¬ (b.startWrite.mode = .unsafeEsc ∧ b.startWrite.markerOpen = false)
      ∧ (b.mode = .raw → b.startWrite = b) := by
  by_cases hc : b.mode = .unsafeEsc ∧ b.markerOpen = false
  · have hfull := full_of_suf_nil hi.le (hi.closedEmpty hc.1 hc.2)
    have hF : FullOK b false := ⟨hfull, by have := hi.good; rwa [pre_of_full hfull] at this,
      by have := hi.sc; rwa [pre_of_full hfull, hc.2] at this⟩
    have ⟨hg, hs, hmo, hmd⟩ := startRedactable_full b hF
    refine ⟨?_, startWrite_mode b, ?_, fun h => by rw [hc.1] at h; cases h⟩
    · rw [startWrite_open b hc]
      exact inv_of_full _ ⟨rfl, hg, hmo ▸ hs⟩ (fun _ => hmd.trans hc.1)
    · rw [startWrite_open b hc]
      exact fun h => by have := hmo.symm.trans h.2; cases this
  · rw [startWrite_noop b hc]
    exact ⟨hi, rfl, hc, fun _ => rfl⟩

theorem pre_append (b : Buffer) (p : List Byte) (h : b.validUntil ≤ b.buf.length) : (b.append p).pre = b.pre := by
  simp [Buffer.append, Buffer.pre, List.take_append_of_le_length h]

theorem suf_append (b : Buffer) (p : List Byte) (h : b.validUntil ≤ b.buf.length) : (b.append p).suf = b.suf ++ p := by
  simp [Buffer.append, Buffer.suf, List.drop_append_of_le_length h]

theorem inv_append (b : Buffer) (p : List Byte) (hi : Inv b)
    (hc : ¬ (b.mode = .unsafeEsc ∧ b.markerOpen = false))
    (hr : b.mode = .raw → Obtainable p) : Inv (b.append p) := by
  refine ⟨by simp [Buffer.append]; have := hi.le; omega, by rw [pre_append b p hi.le]; exact hi.good,
    by rw [pre_append b p hi.le]; exact hi.sc, hi.openMode, fun h1 h2 => absurd ⟨h1, h2⟩ hc, fun h => ?_⟩
  rw [suf_append b p hi.le]
  exact obtainable_append (hi.raw h) (hr h)

theorem inv_write (b : Buffer) (p : List Byte) (hi : Inv b) (hr : b.mode = .raw → Obtainable p) :
    Inv (b.write p) := by
  have ⟨h1, hm, hc, _⟩ := inv_startWrite b hi
  exact inv_append _ p h1 hc (fun h => hr (hm ▸ h))

theorem inv_writeRune (b : Buffer) (r : Int) (hi : Inv b) (hr : b.mode = .raw → Obtainable (encodeRune r)) :
    Inv (b.writeRune r) := inv_write b _ hi hr

theorem inv_writeByte (b : Buffer) (x : Byte) (hi : Inv b) (hr : b.mode = .raw → Obtainable [x]) :
    Inv (b.writeByte x) := by
  unfold Buffer.writeByte
  have ⟨h1, hm, hc, _⟩ := inv_startWrite b hi
  simp only
  split
  · rename_i hcond
    exact inv_write _ _ h1 (fun h => by rw [hcond.1] at h; cases h)
  · exact inv_append _ _ h1 hc (fun h => hr (hm ▸ h))

theorem inv_take (b : Buffer) (hi : Inv b) : Inv b.take.2 := by
  have ⟨_, ho, _⟩ := finalize_full b hi
  simp only [Buffer.take]
  rw [ho]
  exact inv_init

theorem setMode_mode (b : Buffer) (m : Mode) : (b.setMode m).mode = m := by
  by_cases h : b.mode = m
  · rw [setMode_same b m h]; exact h
  · unfold Buffer.setMode; simp [h]

theorem inv_write_nr (b : Buffer) (p : List Byte) (hi : Inv b) (hm : b.mode ≠ .raw) : Inv (b.write p) :=
  inv_write b p hi (fun h => absurd h hm)
theorem inv_writeByte_nr (b : Buffer) (x : Byte) (hi : Inv b) (hm : b.mode ≠ .raw) : Inv (b.writeByte x) :=
  inv_writeByte b x hi (fun h => absurd h hm)
theorem inv_writeRune_nr (b : Buffer) (r : Int) (hi : Inv b) (hm : b.mode ≠ .raw) : Inv (b.writeRune r) :=
  inv_writeRune b r hi (fun h => absurd h hm)

theorem write_mode (b : Buffer) (p : List Byte) : (b.write p).mode = b.mode := startWrite_mode b

theorem writeRune_mode (b : Buffer) (r : Int) : (b.writeRune r).mode = b.mode := write_mode b _

theorem writeByte_mode (b : Buffer) (x : Byte) : (b.writeByte x).mode = b.mode := by
  unfold Buffer.writeByte
  simp only
  split
  · rw [write_mode, startWrite_mode]
  · exact startWrite_mode b

end Redact
