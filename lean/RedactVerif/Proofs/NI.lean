import RedactVerif.Proofs.BufferInv
import RedactVerif.Props.C07
/-
Non-interference at the buffer level (C02, C05's counting half): two runs whose
operations differ only in the content of unsafe payloads (same emptiness, same
line-feed structure) produce redactables with the same public skeleton, hence
the same `Redact()`.

The skeleton is a list of events (`abs`). What each step of the buffer does to the
events of the validated prefix is a function of those events and of the public part
of what is pending (`evB_endRedactable`, `evB_startRedactable`, `evB_escapeToEnd_open`,
`evB_escapeToEnd_closed`); the relation `BRel` between two runs is then carried through
every operation by rewriting both sides.
-/
namespace Redact

/-! Skeleton of a token list: what `Redact` keeps. `blank` is defined in Props/C07. -/

theorem blank_append (o : Bool) (a b : List Tok) (o' : Bool) (h : scanWFFrom o a = some o') :
    blank o (a ++ b) = blank o a ++ blank o' b := by
  induction a generalizing o with
  | nil => cases h; rfl
  | cons t r ih =>
    cases t with
    | s =>
      cases o
      · simp only [List.cons_append, blank, List.append_assoc, ih true h]
      · cases h
    | e =>
      cases o
      · cases h
      · exact ih false h
    | b x =>
      cases o
      · simp only [List.cons_append, blank, ih false h]
      · exact ih true h

theorem scanWF_of_scan (o : Bool) (t : List Tok) (o' : Bool) (h : scanFrom o t = some o') : scanWFFrom o t = some o' := by
  induction t generalizing o with
  | nil => exact h
  | cons x r ih =>
    cases x with
    | s => cases o; exact ih true h; cases h
    | e => cases o; cases h; exact ih false h
    | b y =>
      cases o
      · exact ih false h
      · have h : (if y = LF then none else scanFrom true r) = some o' := h
        split at h
        · cases h
        · exact ih true h


/-! ### The public skeleton of a token list

`abs` keeps everything outside envelopes, the delimiters, and one bit per
envelope (empty or not): this is exactly what two low-equivalent runs share. -/

inductive St where
  | closed | openEmpty | openFull
deriving DecidableEq, Repr

inductive Ev where
  | out (x : Byte)    -- a byte outside any envelope
  | opn               -- start marker
  | full              -- the open envelope received its first content token
  | cls               -- end marker
deriving DecidableEq, Repr

def stStep : St → Tok → St
  | _, .s => .openEmpty
  | _, .e => .closed
  | .closed, .b _ => .closed
  | _, .b _ => .openFull

def stAfter : St → List Tok → St
  | st, [] => st
  | st, t :: r => stAfter (stStep st t) r

def absTok : St → Tok → List Ev
  | _, .s => [.opn]
  | _, .e => [.cls]
  | .closed, .b x => [.out x]
  | .openEmpty, .b _ => [.full]
  | .openFull, .b _ => []

def abs : St → List Tok → List Ev
  | _, [] => []
  | st, t :: r => absTok st t ++ abs (stStep st t) r

theorem stAfter_append (st : St) (a b : List Tok) : stAfter st (a ++ b) = stAfter (stAfter st a) b := by
  induction a generalizing st with
  | nil => rfl
  | cons t r ih => exact ih _

theorem abs_append (st : St) (a b : List Tok) : abs st (a ++ b) = abs st a ++ abs (stAfter st a) b := by
  induction a generalizing st with
  | nil => rfl
  | cons t r ih => simp only [List.cons_append, abs, stAfter, ih, List.append_assoc]

/-- The state is a function of the events. -/
def evStep : St → Ev → St
  | st, .out _ => st
  | _, .opn => .openEmpty
  | _, .full => .openFull
  | _, .cls => .closed

def evState : St → List Ev → St
  | st, [] => st
  | st, e :: r => evState (evStep st e) r

theorem evState_append (st : St) (a b : List Ev) : evState st (a ++ b) = evState (evState st a) b := by
  induction a generalizing st with
  | nil => rfl
  | cons t r ih => exact ih _

theorem stAfter_eq_evState (st : St) (t : List Tok) : stAfter st t = evState st (abs st t) := by
  induction t generalizing st with
  | nil => rfl
  | cons x r ih =>
    simp only [stAfter, abs, evState_append]
    rw [ih]
    congr 1
    cases st <;> cases x <;> rfl

/-- What `Redact` prints, from the events: every envelope becomes `‹×›`. -/
def render : List Ev → List Tok
  | [] => []
  | .out x :: r => .b x :: render r
  | .opn :: r => .s :: (crossT ++ render r)
  | .full :: r => render r
  | .cls :: r => .e :: render r

theorem render_append (a b : List Ev) : render (a ++ b) = render a ++ render b := by
  induction a with
  | nil => rfl
  | cons x r ih => cases x <;> simp only [List.cons_append, render, ih, List.append_assoc]

/-- What ignores the event `full` does not tell the two open states apart. -/
theorem abs_open_congr {α : Type} (f : List Ev → α) (hf : ∀ r, f (.full :: r) = f r) (t : List Tok) :
    f (abs .openEmpty t) = f (abs .openFull t) := by
  cases t with
  | nil => rfl
  | cons x r =>
    cases x with
    | s | e => rfl
    | b y => exact hf _

theorem blank_eq_render (t : List Tok) :
    (scanWFFrom false t = some false → blank false t = render (abs .closed t)) ∧
    (scanWFFrom true t = some false → .e :: blank true t = render (abs .openEmpty t)) ∧
    (scanWFFrom true t = some false → .e :: blank true t = render (abs .openFull t)) := by
  have ro := abs_open_congr render (fun _ => rfl)
  have key : (scanWFFrom false t = some false → blank false t = render (abs .closed t)) ∧
      (scanWFFrom true t = some false → .e :: blank true t = render (abs .openFull t)) := by
    apply scanWF_induction <;> intros <;>
      simp only [blank, abs, absTok, stStep, render, List.singleton_append, List.nil_append, *]
  exact ⟨key.1, fun h => ro t ▸ key.2 h, key.2⟩

theorem redactT_eq_render (t : List Tok) (h : WFL t) : redactT t = render (abs .closed t) := by
  have hw := scanWF_of_scan false t false h
  rw [redactT_exact t hw, (blank_eq_render t).1 hw]

theorem redactT_eq_of_abs (t1 t2 : List Tok) (h1 : WFL t1) (h2 : WFL t2) (h : abs .closed t1 = abs .closed t2) :
    redactT t1 = redactT t2 := by
  rw [redactT_eq_render t1 h1, redactT_eq_render t2 h2, h]


def St.isOpen : St → Bool
  | .closed => false
  | _ => true

theorem isOpen_stAfter (st : St) (t : List Tok) (o : Bool) (h : scanFrom st.isOpen t = some o) :
    (stAfter st t).isOpen = o := by
  induction t generalizing st with
  | nil => exact Option.some.inj h
  | cons x r ih =>
    cases x with
    | s => cases st; exact ih .openEmpty h; all_goals cases h
    | e => cases st; cases h; all_goals exact ih .closed h
    | b y =>
      cases st
      · exact ih .closed h
      all_goals
        have h : (if y = LF then none else scanFrom true r) = some o := h
        split at h
        · cases h
        · exact ih .openFull h

theorem closed_of_scan_false {t : List Tok} (h : scan t = some false) : stAfter .closed t = .closed := by
  have := isOpen_stAfter .closed t false h
  cases hs : stAfter .closed t
  · rfl
  all_goals rw [hs] at this; cases this

theorem open_of_scan_true {t : List Tok} (h : scan t = some true) : stAfter .closed t ≠ .closed := by
  have := isOpen_stAfter .closed t true h
  intro hs; rw [hs] at this; cases this

theorem openEmpty_iff_last_s (st : St) (t : List Tok) (hne : t ≠ []) :
    stAfter st t = .openEmpty ↔ t.getLast? = some .s := by
  induction t generalizing st with
  | nil => exact absurd rfl hne
  | cons x r ih =>
    cases r with
    | nil => cases st <;> cases x <;> simp [stAfter, stStep]
    | cons y r' => rw [stAfter, ih _ (List.cons_ne_nil _ _), List.getLast?_cons_cons]

theorem snoc_of_getLast {t : List Tok} {x : Tok} (h : t.getLast? = some x) : t = t.dropLast ++ [x] :=
  eq_dropLast_append_of_getLast h

def evT (t : List Tok) : List Ev := abs .closed t

theorem evState_evT (t : List Tok) : evState .closed (evT t) = stAfter .closed t :=
  (stAfter_eq_evState .closed t).symm

theorem evT_snoc_s (t : List Tok) : evT (t ++ [.s]) = evT t ++ [.opn] := by
  unfold evT; rw [abs_append]; cases stAfter .closed t <;> rfl

theorem evT_snoc_e (t : List Tok) : evT (t ++ [.e]) = evT t ++ [.cls] := by
  unfold evT; rw [abs_append]; cases stAfter .closed t <;> rfl

theorem evT_snoc_content (t : List Tok) (x : Byte) :
    evT (t ++ [.b x]) = evT t ++ absTok (stAfter .closed t) (.b x) := by
  unfold evT; rw [abs_append]; exact congrArg _ (List.append_nil _)

/-- Outside text appended to a closed prefix. -/
def outEv : List Tok → List Ev
  | [] => []
  | .b x :: r => .out x :: outEv r
  | _ :: r => outEv r

theorem abs_closed_plain (r : List Tok) (h : ∀ x ∈ r, x.isMarker = false) : abs .closed r = outEv r := by
  induction r with
  | nil => rfl
  | cons x r ih =>
    have hr := ih (fun x hx => h x (List.mem_cons_of_mem _ hx))
    cases x with
    | s | e => cases h _ List.mem_cons_self
    | b y => exact congrArg (Ev.out y :: ·) hr

/-! ### Closing and opening an envelope, seen through events

`endRedactable` takes back a start marker just written or appends an end marker, and
`startRedactable` the other way round (`tokenize_endRedactable`, `tokenize_startRedactable`);
the line-feed step of `escTok` does the former between the tokens. -/

def clsEv (evs : List Ev) : List Ev :=
  if evState .closed evs = .openEmpty then evs.dropLast else evs ++ [.cls]

def opnEv (evs : List Ev) : List Ev :=
  if evs.getLast? = some .cls then evs.dropLast else evs ++ [.opn]

theorem evT_close {t : List Tok} (h : scan t = some true) :
    evT (if t.getLast? = some .s then t.dropLast else t ++ [.e]) = clsEv (evT t) := by
  have hl := openEmpty_iff_last_s .closed t (tokens_ne_nil_of_scan_true h)
  unfold clsEv
  rw [evState_evT]
  split
  · rename_i hs
    rw [if_pos (hl.2 hs)]
    conv => rhs; rw [snoc_of_getLast hs, evT_snoc_s, List.dropLast_concat]
  · rename_i hs
    rw [if_neg (mt hl.1 hs), evT_snoc_e]

theorem last_e_iff {t : List Tok} (h : scan t = some false) :
    t.getLast? = some .e ↔ (evT t).getLast? = some .cls := by
  rcases List.eq_nil_or_concat t with rfl | ⟨u, x, rfl⟩
  · exact ⟨nofun, nofun⟩
  · rw [List.concat_eq_append] at h ⊢
    rw [List.getLast?_concat]
    cases x with
    | s => rw [evT_snoc_s, List.getLast?_concat]; exact ⟨nofun, nofun⟩
    | e => rw [evT_snoc_e, List.getLast?_concat]; exact ⟨fun _ => rfl, fun _ => rfl⟩
    | b y =>
      -- a content token leaves the state closed only if it was closed before
      have hc := closed_of_scan_false h
      rw [stAfter_append] at hc
      rw [evT_snoc_content]
      cases hu : stAfter .closed u <;> rw [hu] at hc
      · show _ ↔ (evT u ++ [Ev.out y]).getLast? = _
        rw [List.getLast?_concat]; exact ⟨nofun, nofun⟩
      all_goals cases hc

theorem evT_open {t : List Tok} (h : scan t = some false) :
    evT (if t.getLast? = some .e then t.dropLast else t ++ [.s]) = opnEv (evT t) := by
  unfold opnEv
  split
  · rename_i hs
    rw [if_pos ((last_e_iff h).1 hs)]
    conv => rhs; rw [snoc_of_getLast hs, evT_snoc_e, List.dropLast_concat]
  · rename_i hs
    rw [if_neg (mt (last_e_iff h).2 hs), evT_snoc_s]

def evB (l : List Byte) : List Ev := evT (tokenize l)

theorem evB_endRedactable (b : Buffer) (h : scan (tokenize b.buf) = some true) :
    evB b.endRedactable.buf = clsEv (evB b.buf) := by
  unfold evB; rw [tokenize_endRedactable b h]; exact evT_close h

theorem evB_startRedactable (b : Buffer) (h : scan (tokenize b.buf) = some false) :
    evB b.startRedactable.buf = opnEv (evB b.buf) := by
  unfold evB; rw [tokenize_startRedactable b]; exact evT_open h

/-- Events split where a finished redactable ends. -/
theorem evB_append {a : List Byte} (h : Obtainable a) (c : List Byte) : evB (a ++ c) = evB a ++ evB c := by
  unfold evB evT
  rw [tokenize_append_of_not_straddles a c (not_straddles_of_goodT a c h.1), abs_append, closed_of_scan_false h.2]

def isLFt : Tok → Bool
  | .b x => x == LF
  | _ => false

theorem beq_LF_false {x : Byte} (h : x ≠ LF) : (x == LF) = false := beq_false_of_ne h

/-- One step of the unsafe escape: a line feed closes the envelope and opens the next, every
other token adds one content byte that is not a line feed. -/
theorem escTok_step (out : List Tok) (t : Tok) (r : List Tok) :
    (t = .b LF ∧ escTok true out (t :: r) =
      escTok true ((if out.getLast? = some .s then out.dropLast else out ++ [.e]) ++ [.b LF, .s]) r) ∨
    (isLFt t = false ∧ ∃ x, x ≠ LF ∧ escTok true out (t :: r) = escTok true (out ++ [.b x]) r) := by
  cases t with
  | s | e => exact Or.inr ⟨rfl, 0x3F, by decide, rfl⟩
  | b x =>
    by_cases hx : x = LF
    · subst hx; exact Or.inl ⟨rfl, by rw [escTok, if_pos (by decide)]⟩
    · have hb := beq_LF_false hx
      exact Or.inr ⟨hb, x, hx, by rw [escTok, hb, Bool.and_false, if_neg Bool.false_ne_true]⟩

/-- A content token inside an envelope: the first one is an event. -/
def gEv (evs : List Ev) : List Ev :=
  if evState .closed evs = .openEmpty then evs ++ [.full] else evs

/-- A line feed inside an envelope: the envelope is closed before it and opened after it. -/
def hEv (evs : List Ev) : List Ev := clsEv evs ++ [.out LF, .opn]

theorem gEv_idem (evs : List Ev) : gEv (gEv evs) = gEv evs := by
  unfold gEv
  split
  · rename_i h
    rw [if_neg]
    rw [evState_append, h]; exact nofun
  · rfl

theorem evT_snoc_open (t : List Tok) (x : Byte) (h : scan t = some true) :
    evT (t ++ [.b x]) = gEv (evT t) := by
  rw [evT_snoc_content]
  unfold gEv
  rw [evState_evT]
  have := open_of_scan_true h
  cases hs : stAfter .closed t
  · exact absurd hs this
  · rfl
  · exact List.append_nil _

theorem scan_snoc_content {t : List Tok} {x : Byte} (h : scan t = some true) (hx : x ≠ LF) :
    scan (t ++ [.b x]) = some true := by
  rw [scan_append, h]; simp [scanFrom, hx]

theorem scan_lf_step {out : List Tok} (h : scan out = some true) :
    scan ((if out.getLast? = some .s then out.dropLast else out ++ [.e]) ++ [.b LF, .s]) = some true := by
  rw [scan_append, scan_close h]; rfl

theorem evT_lf_step {out : List Tok} (h : scan out = some true) :
    evT ((if out.getLast? = some .s then out.dropLast else out ++ [.e]) ++ [.b LF, .s]) = hEv (evT out) := by
  rw [List.append_cons _ (Tok.b LF), evT_snoc_s, evT_snoc_content, closed_of_scan_false (scan_close h), evT_close h,
    List.append_assoc]
  rfl

/-! ### Shapes: line-feed structure and segment emptiness -/

/-- Put a "non-empty segment" mark in front, unless one is already there. -/
def cF : List Bool → List Bool
  | false :: c => false :: c
  | c => false :: c

theorem cF_idem (c : List Bool) : cF (cF c) = cF c := by
  cases c with
  | nil => rfl
  | cons x r => cases x <;> rfl

def canonT : List Tok → List Bool
  | [] => []
  | t :: r => if isLFt t then true :: canonT r else cF (canonT r)

/-- The shape of a byte string: its line feeds, and between them whether anything was written. -/
def canonB : List Byte → List Bool
  | [] => []
  | x :: r => if x == LF then true :: canonB r else cF (canonB r)

def glue : List Bool → List Bool → List Bool
  | [], c => c
  | true :: a, c => true :: glue a c
  | false :: a, c => cF (glue a c)

theorem glue_cF (c d : List Bool) : glue (cF c) d = cF (glue c d) := by
  cases c with
  | nil => rfl
  | cons x r =>
    cases x
    · exact (cF_idem _).symm
    · rfl

theorem canonB_append (a b : List Byte) : canonB (a ++ b) = glue (canonB a) (canonB b) := by
  induction a with
  | nil => rfl
  | cons x r ih =>
    simp only [List.cons_append, canonB]
    split
    · rw [ih]; rfl
    · rw [ih, glue_cF]

theorem canonB_cons_ne {x : Byte} (hx : x ≠ LF) (r : List Byte) : canonB (x :: r) = cF (canonB r) := by
  rw [canonB, beq_LF_false hx, if_neg Bool.false_ne_true]

theorem canonT_tokenize (l : List Byte) : canonT (tokenize l) = canonB l := by
  fun_induction tokenize l with
  | case1 r ih | case2 r ih =>
    rw [canonB_cons_ne (by decide), canonB_cons_ne (by decide), canonB_cons_ne (by decide), cF_idem, cF_idem, ← ih]; rfl
  | case3 x r h1 h2 ih => rw [canonT, canonB, ih]; rfl
  | case4 => rfl

/-- The events after escaping pending unsafe bytes of shape `c` behind a prefix with events `evs`. -/
def foldC : List Ev → List Bool → List Ev
  | evs, [] => evs
  | evs, true :: c => foldC (hEv evs) c
  | evs, false :: c => foldC (gEv evs) c

theorem foldC_cF (evs : List Ev) (c : List Bool) : foldC evs (cF c) = foldC (gEv evs) c := by
  cases c with
  | nil => rfl
  | cons x r => cases x <;> simp only [cF, foldC, gEv_idem]

theorem evT_escTok_open (out rest : List Tok) (h : scan out = some true) :
    evT (escTok true out rest) = foldC (evT out) (canonT rest) := by
  induction rest generalizing out with
  | nil => rfl
  | cons t r ih =>
    rw [canonT]
    rcases escTok_step out t r with ⟨rfl, he⟩ | ⟨ht, x, hx, he⟩ <;> rw [he]
    · rw [ih _ (scan_lf_step h), evT_lf_step h]; rfl
    · rw [ih _ (scan_snoc_content h hx), evT_snoc_open _ _ h, ht, if_neg Bool.false_ne_true, foldC_cF]

theorem evT_escTok_shape (out1 out2 : List Tok) (p1 p2 : List Byte)
    (h1 : scan out1 = some true) (h2 : scan out2 = some true)
    (hev : evT out1 = evT out2) (hsh : canonB p1 = canonB p2) :
    evT (escTok true out1 (tokenize p1)) = evT (escTok true out2 (tokenize p2)) := by
  rw [evT_escTok_open _ _ h1, evT_escTok_open _ _ h2, canonT_tokenize, canonT_tokenize, hev, hsh]


/-! ### The tail test is public -/

/-- `tailBad` on the reversed list. -/
def tbR : List Byte → Bool
  | [] => false
  | last :: rev =>
    if last < 0x80 then false
    else
      let back := backScan 3 rev 0
      let back := if back > rev.length then rev.length else back
      let window := (rev.take back).reverse ++ [last]
      let (_, size) := decodeRune window
      if size != window.length then true
      else
        let (err, sz) := decodeRune window
        err && sz == 1

theorem tailBad_eq_tbR (l : List Byte) : tailBad l = tbR l.reverse := by
  unfold tailBad tbR
  cases l.reverse <;> rfl

/-- The backward search of the tail test stops at a rune start: what lies beyond is not looked
at, and the decode window does not reach past it. -/
theorem backScan_stop (n k : Nat) (r x : List Byte) (h : r.any runeStart = true) :
    backScan n (r ++ x) k = backScan n r k ∧ backScan n r k ≤ k + r.length := by
  induction r generalizing n k with
  | nil => cases h
  | cons y r ih =>
    cases n with
    | zero => exact ⟨rfl, Nat.add_le_add_left (Nat.le_add_left 1 _) k⟩
    | succ n =>
      cases hy : runeStart y with
      | true =>
        simp only [List.cons_append, backScan, hy, if_true, List.length_cons, true_and]
        exact Nat.add_le_add_left (Nat.le_add_left 1 _) k
      | false =>
        rw [List.any_cons, hy, Bool.false_or] at h
        simp only [List.cons_append, backScan, hy, Bool.false_eq_true, if_false, List.length_cons]
        rw [Nat.add_comm r.length 1, ← Nat.add_assoc]
        exact ih n (k + 1) h

theorem tbR_stop (last : Byte) (rev x : List Byte) (h : rev.any runeStart = true) :
    tbR (last :: (rev ++ x)) = tbR (last :: rev) := by
  have ⟨e, le⟩ := backScan_stop 3 0 rev x h
  rw [Nat.zero_add] at le
  have le' : backScan 3 rev 0 ≤ (rev ++ x).length := List.length_append ▸ Nat.le_trans le (Nat.le_add_right _ _)
  simp only [tbR, e, Nat.not_lt.2 le, Nat.not_lt.2 le', if_false, List.take_append_of_le_length le]

theorem runeStart_80 : runeStart 0x80 = false := by decide

/-- An end marker shields the tail test from everything before it: its first byte is a rune start. -/
theorem tailBad_shield (A w : List Byte) : tailBad (A ++ (endB ++ w)) = tailBad (endB ++ w) := by
  have he : endB.reverse = [0xBA, 0x80, 0xE2] := rfl
  rw [tailBad_eq_tbR, tailBad_eq_tbR, List.reverse_append, List.reverse_append, he]
  cases w.reverse with
  | nil => exact tbR_stop 0xBA [0x80, 0xE2] A.reverse (by decide)
  | cons a v =>
    rw [List.cons_append, List.cons_append]
    exact tbR_stop a _ _ (by rw [List.any_append, Bool.or_eq_true]; exact Or.inr (by decide))

theorem tailBad_startB (x : List Byte) : tailBad (x ++ startB) = false := by
  rw [tailBad_eq_tbR, List.reverse_append]
  exact (tbR_stop 0xB9 [0x80, 0xE2] x.reverse (by decide)).trans (by decide)

theorem tailBad_lf (x : List Byte) : tailBad (x ++ [LF]) = false := by
  rw [tailBad_eq_tbR]
  simp [tbR, LF]

/-- The bytes after (and including) the last end marker, or everything when there is none:
a function of the public events. -/
def tailE : List Byte → List Ev → List Byte
  | acc, [] => acc
  | _, .cls :: r => tailE endB r
  | acc, .out x :: r => tailE (acc ++ [x]) r
  | _, .opn :: r => tailE [] r
  | _, .full :: r => tailE [] r

theorem tailE_append (acc : List Byte) (a b : List Ev) : tailE acc (a ++ b) = tailE (tailE acc a) b := by
  induction a generalizing acc with
  | nil => rfl
  | cons x r ih => cases x <;> exact ih _

/-- Outside envelopes the bytes read so far are `acc`, behind something that an end marker at the
head of `acc` shields from the tail test. -/
def TailOk (st : St) (acc done : List Byte) : Prop :=
  st = .closed → ∃ A, done = A ++ acc ∧ (A = [] ∨ endB <+: acc)

theorem tailOk_step {st : St} {acc done : List Byte} (h : TailOk st acc done) (t : Tok) :
    TailOk (stStep st t) (tailE acc (absTok st t)) (done ++ t.bytes) := by
  cases t with
  | s => intro hc; cases st <;> cases hc
  | e =>
    have : tailE acc (absTok st .e) = endB := by cases st <;> rfl
    rw [this]
    exact fun _ => ⟨done, rfl, Or.inr (List.prefix_refl _)⟩
  | b x =>
    cases st with
    | closed =>
      obtain ⟨A, hA, hB⟩ := h rfl
      exact fun _ => ⟨A, by rw [hA, List.append_assoc]; rfl, hB.imp id (·.trans (List.prefix_append _ _))⟩
    | openEmpty => exact nofun
    | openFull => exact nofun

theorem pubTail (T : List Tok) {st : St} {acc done : List Byte} (h : TailOk st acc done) :
    TailOk (stAfter st T) (tailE acc (abs st T)) (done ++ untok T) := by
  induction T generalizing st acc done with
  | nil => exact (List.append_nil done).symm ▸ h
  | cons t r ih =>
    have := ih (tailOk_step h t)
    rwa [List.append_assoc, ← tailE_append] at this

/-- The tail test of a closed buffer plus public pending bytes is public. -/
theorem tailBad_public (p1 p2 suf : List Byte)
    (h1 : scan (tokenize p1) = some false) (h2 : scan (tokenize p2) = some false)
    (hev : evB p1 = evB p2) : tailBad (p1 ++ suf) = tailBad (p2 ++ suf) := by
  have start : TailOk .closed [] [] := fun _ => ⟨[], rfl, Or.inl rfl⟩
  obtain ⟨A1, e1, c1⟩ := pubTail (tokenize p1) start (closed_of_scan_false h1)
  obtain ⟨A2, e2, c2⟩ := pubTail (tokenize p2) start (closed_of_scan_false h2)
  rw [List.nil_append, untok_tokenize] at e1 e2
  rw [show abs .closed (tokenize p1) = abs .closed (tokenize p2) from hev] at e1 c1
  generalize tailE [] (abs .closed (tokenize p2)) = c at e1 e2 c1 c2
  by_cases hp : endB <+: c
  · obtain ⟨w, rfl⟩ := hp
    rw [e1, e2, List.append_assoc, List.append_assoc, List.append_assoc, List.append_assoc,
      tailBad_shield, tailBad_shield]
  · rw [e1, e2, c1.resolve_right hp, c2.resolve_right hp]


/-- Relation between what two runs have pending, by mode: unsafe bytes need only have the
same shape; safe bytes are equal; pre-redactable fragments have the same public events. -/
def PendRel (m : Mode) (s1 s2 : List Byte) : Prop :=
  if m = .unsafeEsc then canonB s1 = canonB s2 else if m = .raw then evB s1 = evB s2 else s1 = s2

/-- Two buffer states a low observer cannot tell apart. -/
structure BRel (b1 b2 : Buffer) : Prop where
  i1 : Inv b1
  i2 : Inv b2
  mode : b1.mode = b2.mode
  mo : b1.markerOpen = b2.markerOpen
  ev : evB b1.pre = evB b2.pre
  pend : PendRel b1.mode b1.suf b2.suf

theorem pendRel_unsafe {m : Mode} {s1 s2 : List Byte} (hu : m = .unsafeEsc) :
    PendRel m s1 s2 ↔ canonB s1 = canonB s2 := by
  unfold PendRel; rw [if_pos hu]

theorem pendRel_raw {m : Mode} {s1 s2 : List Byte} (hr : m = .raw) : PendRel m s1 s2 ↔ evB s1 = evB s2 := by
  subst hr; unfold PendRel; rw [if_neg (by decide), if_pos rfl]

theorem pendRel_esc {m : Mode} {s1 s2 : List Byte} (hu : m ≠ .unsafeEsc) (hr : m ≠ .raw) :
    PendRel m s1 s2 ↔ s1 = s2 := by
  unfold PendRel; rw [if_neg hu, if_neg hr]

theorem pendRel_of_eq (m : Mode) {s1 s2 : List Byte} (h : s1 = s2) : PendRel m s1 s2 := by
  subst h; unfold PendRel
  split
  · rfl
  · split <;> rfl

/-- The escaped tokens end in a start marker only if nothing was pending behind one, or
what was pending ended in a line feed. -/
theorem escTok_last_s (out rest : List Tok) (h : (escTok true out rest).getLast? = some .s) :
    (rest = [] ∧ out.getLast? = some .s) ∨ rest.getLast? = some (.b LF) := by
  induction rest generalizing out with
  | nil => exact Or.inl ⟨rfl, h⟩
  | cons t r ih =>
    right
    rcases escTok_step out t r with ⟨rfl, he⟩ | ⟨_, x, _, he⟩ <;> rw [he] at h <;>
      rcases ih _ h with ⟨rfl, h2⟩ | h2
    · rfl
    · rw [List.getLast?_cons, h2]; rfl
    · rw [List.getLast?_concat] at h2; cases h2
    · rw [List.getLast?_cons, h2]; rfl

theorem tokenize_eq_nil {l : List Byte} (h : tokenize l = []) : l = [] := by
  have := untok_tokenize l; rw [h] at this; simpa using this.symm

theorem buf_eq_pre_suf (b : Buffer) : b.buf = b.pre ++ b.suf := by simp [Buffer.pre, Buffer.suf]

/-- A bad tail is never reported right after a start marker. -/
theorem not_openEmpty_of_tailBad (b : Buffer) (hsc : scan (tokenize b.pre) = some true)
    (htb : tailBad b.buf = true) :
    stAfter .closed (escTok true (tokenize b.pre) (tokenize b.suf)) ≠ .openEmpty := by
  intro hst
  have hR : scan (escTok true (tokenize b.pre) (tokenize b.suf)) = some true := scan_escTok_open _ _ hsc
  have hne := tokens_ne_nil_of_scan_true hR
  have hl := (openEmpty_iff_last_s .closed _ hne).1 hst
  rcases escTok_last_s _ _ hl with ⟨h1, h2⟩ | h2
  · have hs : b.suf = [] := tokenize_eq_nil h1
    have hp : startB <:+ b.pre := (getLast_tokenize_start _).1 h2
    obtain ⟨x, hx⟩ := hp
    rw [buf_eq_pre_suf, hs, List.append_nil, ← hx, tailBad_startB] at htb
    cases htb
  · have hsn := snoc_of_getLast h2
    have : b.suf = untok (tokenize b.suf).dropLast ++ [LF] := by
      conv => lhs; rw [← untok_tokenize b.suf, hsn, untok_append]
      rfl
    rw [buf_eq_pre_suf, this, ← List.append_assoc, tailBad_lf] at htb
    cases htb

/-- In an open envelope the events after escaping depend on the pending bytes through their
shape only. -/
theorem evB_escapeToEnd_open (b : Buffer) (hi : Inv b) (ho : b.markerOpen = true) :
    evB (b.escapeToEnd true).buf = foldC (evB b.pre) (canonB b.suf) := by
  have hsc : scan (tokenize b.pre) = some true := ho ▸ hi.sc
  unfold evB
  rw [tokenize_escapeToEnd b hi, ← canonT_tokenize, ← evT_escTok_open _ _ hsc]
  split
  · rename_i htb
    -- the `?` after a truncated character is content of an envelope that is not empty
    rw [evT_snoc_open _ _ (scan_escTok_open _ _ hsc)]
    unfold gEv
    rw [evState_evT, if_neg (not_openEmpty_of_tailBad b hsc htb)]
  · rfl

/-- Outside an envelope escaping replaces markers in what is pending and tests the tail. -/
theorem evB_escapeToEnd_closed (b : Buffer) (hi : Inv b) (ho : b.markerOpen = false) :
    evB (b.escapeToEnd (decide (b.mode = .unsafeEsc))).buf =
      evB b.pre ++ abs .closed (escT (tokenize b.suf) ++ if tailBad b.buf then [.b 0x3F] else []) := by
  -- in unsafe mode nothing is pending outside an envelope
  have hR : escTok (decide (b.mode = .unsafeEsc)) (tokenize b.pre) (tokenize b.suf) =
      tokenize b.pre ++ escT (tokenize b.suf) := by
    by_cases hu : b.mode = .unsafeEsc
    · rw [hi.closedEmpty hu ho]; exact (List.append_nil _).symm
    · rw [decide_eq_false hu]; exact escTok_false_eq _ _
  have hT : tokenize (b.escapeToEnd (decide (b.mode = .unsafeEsc))).buf =
      tokenize b.pre ++ (escT (tokenize b.suf) ++ if tailBad b.buf then [.b 0x3F] else []) := by
    rw [tokenize_escapeToEnd b hi, hR]
    split
    · rw [List.append_assoc]
    · rw [List.append_nil]
  unfold evB evT
  rw [hT, abs_append, closed_of_scan_false (ho ▸ hi.sc)]

theorem escapeToEnd_rel (b1 b2 : Buffer) (h : BRel b1 b2) (hm : b1.mode ≠ .raw) :
    evB (b1.escapeToEnd (decide (b1.mode = .unsafeEsc))).buf =
    evB (b2.escapeToEnd (decide (b2.mode = .unsafeEsc))).buf := by
  cases ho : b1.markerOpen with
  | true =>
    have hu := h.i1.openMode ho
    rw [decide_eq_true hu, decide_eq_true (h.mode ▸ hu), evB_escapeToEnd_open b1 h.i1 ho,
      evB_escapeToEnd_open b2 h.i2 (h.mo ▸ ho), h.ev, (pendRel_unsafe hu).1 h.pend]
  | false =>
    have ho2 : b2.markerOpen = false := h.mo ▸ ho
    have hsuf : b1.suf = b2.suf := by
      by_cases hu : b1.mode = .unsafeEsc
      · rw [h.i1.closedEmpty hu ho, h.i2.closedEmpty (h.mode ▸ hu) ho2]
      · exact (pendRel_esc hu hm).1 h.pend
    have htb : tailBad b1.buf = tailBad b2.buf := by
      rw [buf_eq_pre_suf b1, buf_eq_pre_suf b2, hsuf]
      exact tailBad_public _ _ _ (ho ▸ h.i1.sc) (ho2 ▸ h.i2.sc) h.ev
    rw [evB_escapeToEnd_closed b1 h.i1 ho, evB_escapeToEnd_closed b2 h.i2 ho2, h.ev, hsuf, htb]


theorem brel_of_full (b1 b2 : Buffer) (h1 : FullOK b1 false) (h2 : FullOK b2 false)
    (hm : b1.mode = b2.mode) (o1 : b1.markerOpen = false) (o2 : b2.markerOpen = false)
    (hev : evB b1.buf = evB b2.buf) : BRel b1 b2 := by
  refine ⟨inv_of_full_closed _ h1 o1, inv_of_full_closed _ h2 o2, hm, by rw [o1, o2], ?_, ?_⟩
  · rw [pre_of_full h1.full, pre_of_full h2.full]; exact hev
  · rw [suf_of_full h1.full, suf_of_full h2.full]; exact pendRel_of_eq _ rfl

theorem finalize_rel (b1 b2 : Buffer) (h : BRel b1 b2) : evB b1.finalize.buf = evB b2.finalize.buf := by
  by_cases hm : b1.mode = .raw
  · have hm2 : b2.mode = .raw := h.mode ▸ hm
    have ⟨_, o1⟩ := full_of_raw b1 h.i1 hm
    have ⟨_, o2⟩ := full_of_raw b2 h.i2 hm2
    rw [finalize_raw b1 hm o1, finalize_raw b2 hm2 o2]
    show evB b1.buf = evB b2.buf
    rw [buf_eq_pre_suf b1, buf_eq_pre_suf b2, evB_append ⟨h.i1.good, o1 ▸ h.i1.sc⟩,
      evB_append ⟨h.i2.good, o2 ▸ h.i2.sc⟩, h.ev, (pendRel_raw hm).1 h.pend]
  · have hm2 : b2.mode ≠ .raw := fun hh => hm (h.mode ▸ hh)
    have hE := escapeToEnd_rel b1 b2 h hm
    cases ho : b1.markerOpen with
    | false =>
      rw [finalize_esc_closed b1 hm ho, finalize_esc_closed b2 hm2 (h.mo ▸ ho)]; exact hE
    | true =>
      have ho2 : b2.markerOpen = true := h.mo ▸ ho
      have ⟨f1, _, _⟩ := escapeToEnd_full b1 h.i1
      have ⟨f2, _, _⟩ := escapeToEnd_full b2 h.i2
      rw [finalize_esc_open b1 hm ho, finalize_esc_open b2 hm2 ho2]
      show evB (Buffer.endRedactable _).buf = evB (Buffer.endRedactable _).buf
      rw [evB_endRedactable _ (ho ▸ f1.sc), evB_endRedactable _ (ho2 ▸ f2.sc), hE]

/-- `SetMode` to a different mode leaves the bytes `finalize` would leave. -/
theorem setMode_buf (b : Buffer) (m : Mode) (hi : Inv b) (hne : b.mode ≠ m) :
    (b.setMode m).buf = b.finalize.buf ∧ (b.setMode m).validUntil = (b.setMode m).buf.length
      ∧ (b.setMode m).markerOpen = false := by
  by_cases hm : b.mode = .raw
  · have ⟨_, ho⟩ := full_of_raw b hi hm
    rw [setMode_raw b m hne hm ho, finalize_raw b hm ho]
    exact ⟨rfl, rfl, ho⟩
  · cases ho : b.markerOpen with
    | false =>
      rw [setMode_esc_closed b m hne hm ho, finalize_esc_closed b hm ho]
      exact ⟨rfl, rfl, ho⟩
    | true =>
      rw [setMode_esc_open b m hne hm ho, finalize_esc_open b hm ho]
      have ⟨hf, _, _⟩ := escapeToEnd_full b hi
      rw [ho] at hf
      have ⟨_, _, hmo, _⟩ := endRedactable_full _ hf
      exact ⟨rfl, rfl, hmo⟩

theorem setMode_rel (b1 b2 : Buffer) (m : Mode) (h : BRel b1 b2) : BRel (b1.setMode m) (b2.setMode m) := by
  by_cases hsame : b1.mode = m
  · rw [setMode_same b1 m hsame, setMode_same b2 m (h.mode ▸ hsame)]; exact h
  · have hsame2 : b2.mode ≠ m := fun hh => hsame (h.mode ▸ hh)
    have ⟨e1, v1, o1⟩ := setMode_buf b1 m h.i1 hsame
    have ⟨e2, v2, o2⟩ := setMode_buf b2 m h.i2 hsame2
    have ⟨f1, _, _⟩ := finalize_full b1 h.i1
    have ⟨f2, _, _⟩ := finalize_full b2 h.i2
    refine brel_of_full _ _ ⟨v1, by rw [e1]; exact f1.good, by rw [e1]; exact f1.sc⟩
      ⟨v2, by rw [e2]; exact f2.good, by rw [e2]; exact f2.sc⟩
      (by rw [setMode_mode, setMode_mode]) o1 o2 ?_
    rw [e1, e2]; exact finalize_rel b1 b2 h

/-- In unsafe mode outside an envelope `startWrite` opens one; nothing is pending then. -/
theorem startWrite_opens (b : Buffer) (hi : Inv b) (hc : b.mode = .unsafeEsc ∧ b.markerOpen = false) :
    b.startWrite.markerOpen = true ∧ evB b.startWrite.pre = opnEv (evB b.pre) ∧ b.startWrite.suf = [] := by
  have hp := pre_of_full (full_of_suf_nil hi.le (hi.closedEmpty hc.1 hc.2))
  rw [startWrite_open b hc, hp]
  exact ⟨startRedactable_markerOpen b, (congrArg evB (pre_of_full rfl)).trans
    (evB_startRedactable b (hp ▸ hc.2 ▸ hi.sc)), suf_of_full rfl⟩

theorem startWrite_rel (b1 b2 : Buffer) (h : BRel b1 b2) : BRel b1.startWrite b2.startWrite := by
  by_cases hc : b1.mode = .unsafeEsc ∧ b1.markerOpen = false
  · have hc2 : b2.mode = .unsafeEsc ∧ b2.markerOpen = false := ⟨h.mode ▸ hc.1, h.mo ▸ hc.2⟩
    have ⟨o1, e1, s1⟩ := startWrite_opens b1 h.i1 hc
    have ⟨o2, e2, s2⟩ := startWrite_opens b2 h.i2 hc2
    exact ⟨(inv_startWrite b1 h.i1).1, (inv_startWrite b2 h.i2).1, by rw [startWrite_mode, startWrite_mode, h.mode],
      o1.trans o2.symm, by rw [e1, e2, h.ev], by rw [s1, s2]; exact pendRel_of_eq _ rfl⟩
  · have hc2 : ¬ (b2.mode = .unsafeEsc ∧ b2.markerOpen = false) := fun hh => hc ⟨h.mode ▸ hh.1, h.mo ▸ hh.2⟩
    rw [startWrite_noop b1 hc, startWrite_noop b2 hc2]; exact h

theorem PendRel.append {m : Mode} {s1 s2 p1 p2 : List Byte} (hs : PendRel m s1 s2) (hp : PendRel m p1 p2)
    (o1 : m = .raw → Obtainable s1) (o2 : m = .raw → Obtainable s2) : PendRel m (s1 ++ p1) (s2 ++ p2) := by
  by_cases hu : m = .unsafeEsc
  · rw [pendRel_unsafe hu] at hs hp ⊢
    rw [canonB_append, canonB_append, hs, hp]
  · by_cases hr : m = .raw
    · rw [pendRel_raw hr] at hs hp ⊢
      rw [evB_append (o1 hr), evB_append (o2 hr), hs, hp]
    · rw [pendRel_esc hu hr] at hs hp ⊢
      rw [hs, hp]

theorem append_rel (b1 b2 : Buffer) (p1 p2 : List Byte) (h : BRel b1 b2)
    (hc : ¬ (b1.mode = .unsafeEsc ∧ b1.markerOpen = false))
    (hp : PendRel b1.mode p1 p2) (hr1 : b1.mode = .raw → Obtainable p1) (hr2 : b1.mode = .raw → Obtainable p2) :
    BRel (b1.append p1) (b2.append p2) := by
  have hc2 : ¬ (b2.mode = .unsafeEsc ∧ b2.markerOpen = false) := fun hh => hc ⟨h.mode ▸ hh.1, h.mo ▸ hh.2⟩
  refine ⟨inv_append b1 p1 h.i1 hc hr1, inv_append b2 p2 h.i2 hc2 (fun hh => hr2 (h.mode ▸ hh)), h.mode, h.mo, ?_, ?_⟩
  · rw [pre_append b1 p1 h.i1.le, pre_append b2 p2 h.i2.le]; exact h.ev
  · rw [suf_append b1 p1 h.i1.le, suf_append b2 p2 h.i2.le]
    exact h.pend.append hp h.i1.raw (fun hh => h.i2.raw (h.mode ▸ hh))

theorem write_rel (b1 b2 : Buffer) (p1 p2 : List Byte) (h : BRel b1 b2)
    (hp : PendRel b1.mode p1 p2) (hr1 : b1.mode = .raw → Obtainable p1) (hr2 : b1.mode = .raw → Obtainable p2) :
    BRel (b1.write p1) (b2.write p2) := by
  have ⟨_, m1, hc, _⟩ := inv_startWrite b1 h.i1
  exact append_rel _ _ p1 p2 (startWrite_rel b1 b2 h) hc (m1 ▸ hp) (fun hh => hr1 (m1 ▸ hh)) (fun hh => hr2 (m1 ▸ hh))


theorem canonB_no_LF (l : List Byte) (hne : l ≠ []) (h : ∀ x ∈ l, x ≠ LF) : canonB l = [false] := by
  induction l with
  | nil => exact absurd rfl hne
  | cons x r ih =>
    rw [canonB_cons_ne (h x List.mem_cons_self)]
    cases r with
    | nil => rfl
    | cons y r' => rw [ih (List.cons_ne_nil _ _) (fun z hz => h z (List.mem_cons_of_mem _ hz))]; rfl

theorem canonB_singleton (x : Byte) : canonB [x] = [decide (x = LF)] := by
  by_cases h : x = LF
  · subst h; rfl
  · rw [decide_eq_false h]
    exact canonB_no_LF [x] (List.cons_ne_nil _ _) (fun z hz => List.mem_singleton.1 hz ▸ h)

/-- A byte with the top bit set is not a line feed. -/
theorem ofNat_or_ne_LF (K m : Nat) (hK : 128 ≤ K ∧ K < 256) : UInt8.ofNat (K ||| m) ≠ LF := by
  intro h
  have h := congrArg UInt8.toNat h
  rw [UInt8.toNat_ofNat', ← Nat.and_two_pow_sub_one_eq_mod, Nat.and_or_distrib_right,
    Nat.and_two_pow_sub_one_of_lt_two_pow hK.2] at h
  exact absurd (h ▸ Nat.le_trans hK.1 Nat.left_le_or) (by decide)

theorem encodeRune_no_LF (r : Int) (hr : r ≠ 10) : ∀ x ∈ encodeRune r, x ≠ LF := by
  unfold encodeRune
  split
  · decide
  · rename_i h
    have ⟨h0, h1⟩ : 0 ≤ r ∧ r ≤ 0x7F := by
      rcases runeLen_cases r with h' | ⟨_, h0, h1⟩ | ⟨h', _⟩ | ⟨h', _⟩ | ⟨h', _⟩
      · rw [h] at h'; cases h'
      · exact ⟨h0, h1⟩
      all_goals rw [h] at h'; cases h'
    intro x hx hh
    rw [List.mem_singleton.1 hx] at hh
    have := congrArg UInt8.toNat hh
    rw [UInt8.toNat_ofNat', Nat.mod_eq_of_lt (Nat.lt_of_le_of_lt (Int.toNat_le.2 h1) (by decide))] at this
    exact hr (by rw [← Int.toNat_of_nonneg h0, this]; rfl)
  -- from two bytes on, every byte has its top bit set
  all_goals
    simp only [List.forall_mem_cons, List.not_mem_nil, false_imp_iff, implies_true, and_true]
  · exact ⟨ofNat_or_ne_LF _ _ (by decide), ofNat_or_ne_LF _ _ (by decide)⟩
  · exact ⟨ofNat_or_ne_LF _ _ (by decide), ofNat_or_ne_LF _ _ (by decide), ofNat_or_ne_LF _ _ (by decide)⟩
  · exact ⟨ofNat_or_ne_LF _ _ (by decide), ofNat_or_ne_LF _ _ (by decide), ofNat_or_ne_LF _ _ (by decide),
      ofNat_or_ne_LF _ _ (by decide)⟩

theorem encodeRune_ne_nil (r : Int) : encodeRune r ≠ [] := by
  unfold encodeRune
  split <;> exact List.cons_ne_nil _ _

/-- The shape of an encoded rune: a line feed or one non-empty segment. -/
theorem canonB_encodeRune (r : Int) : canonB (encodeRune r) = [decide (r = 10)] := by
  by_cases h : r = 10
  · subst h; decide
  · rw [decide_eq_false h]; exact canonB_no_LF _ (encodeRune_ne_nil r) (encodeRune_no_LF r h)

/-- What `WriteByte` appends. -/
def byteEff (m : Mode) (x : Byte) : List Byte := if m = .unsafeEsc ∧ x ≥ 0x80 then escB else [x]

theorem writeByte_eq (b : Buffer) (x : Byte) (hi : Inv b) :
    b.writeByte x = b.startWrite.append (byteEff b.mode x) := by
  unfold Buffer.writeByte byteEff
  simp only [startWrite_mode]
  split
  · unfold Buffer.write; rw [startWrite_noop _ (inv_startWrite b hi).2.2.1]
  · rfl

theorem canonB_byteEff_unsafe (x : Byte) : canonB (byteEff .unsafeEsc x) = [decide (x = LF)] := by
  unfold byteEff
  by_cases hx : x ≥ 0x80
  · have : x ≠ LF := by intro h; subst h; exact absurd hx (by decide)
    rw [if_pos ⟨rfl, hx⟩, decide_eq_false this]; rfl
  · rw [if_neg (fun h => hx h.2)]; exact canonB_singleton x

theorem writeByte_rel (b1 b2 : Buffer) (x1 x2 : Byte) (h : BRel b1 b2)
    (hr : if b1.mode = .unsafeEsc then (x1 = LF ↔ x2 = LF) else x1 = x2)
    (k1 : b1.mode = .raw → Obtainable [x1]) (k2 : b1.mode = .raw → Obtainable [x2]) :
    BRel (b1.writeByte x1) (b2.writeByte x2) := by
  have raw (x : Byte) (hh : b1.mode = .raw) : byteEff b1.mode x = [x] := if_neg (fun c => by rw [hh] at c; cases c.1)
  rw [writeByte_eq b1 x1 h.i1, writeByte_eq b2 x2 h.i2, ← h.mode]
  refine write_rel b1 b2 _ _ h ?_ (fun hh => raw x1 hh ▸ k1 hh) (fun hh => raw x2 hh ▸ k2 hh)
  by_cases hu : b1.mode = .unsafeEsc
  · rw [if_pos hu] at hr
    rw [hu, pendRel_unsafe rfl, canonB_byteEff_unsafe, canonB_byteEff_unsafe, decide_eq_decide.2 hr]
  · rw [if_neg hu] at hr
    exact pendRel_of_eq _ (hr ▸ rfl)

theorem writeRune_rel (b1 b2 : Buffer) (r1 r2 : Int) (h : BRel b1 b2)
    (hr : if b1.mode = .unsafeEsc then (r1 = 10 ↔ r2 = 10) else r1 = r2)
    (k1 : b1.mode = .raw → Obtainable (encodeRune r1)) (k2 : b1.mode = .raw → Obtainable (encodeRune r2)) :
    BRel (b1.writeRune r1) (b2.writeRune r2) := by
  refine write_rel b1 b2 (encodeRune r1) (encodeRune r2) h ?_ k1 k2
  by_cases hu : b1.mode = .unsafeEsc
  · rw [if_pos hu] at hr
    rw [pendRel_unsafe hu, canonB_encodeRune, canonB_encodeRune, decide_eq_decide.2 hr]
  · rw [if_neg hu] at hr
    exact pendRel_of_eq _ (hr ▸ rfl)

theorem write_rel_same (b1 b2 : Buffer) (s : List Byte) (h : BRel b1 b2) (hm : b1.mode ≠ .raw) :
    BRel (b1.write s) (b2.write s) :=
  write_rel _ _ _ _ h (pendRel_of_eq _ rfl) (fun hh => absurd hh hm) (fun hh => absurd hh hm)

theorem writeByte_rel_same (b1 b2 : Buffer) (x : Byte) (h : BRel b1 b2) (hm : b1.mode ≠ .raw) :
    BRel (b1.writeByte x) (b2.writeByte x) :=
  writeByte_rel _ _ _ _ h (by split <;> rfl) (fun hh => absurd hh hm) (fun hh => absurd hh hm)

theorem writeRune_rel_same (b1 b2 : Buffer) (r : Int) (h : BRel b1 b2) (hm : b1.mode ≠ .raw) :
    BRel (b1.writeRune r) (b2.writeRune r) :=
  writeRune_rel _ _ _ _ h (by split <;> rfl) (fun hh => absurd hh hm) (fun hh => absurd hh hm)


theorem brel_init : BRel Buffer.init Buffer.init :=
  ⟨inv_init, inv_init, rfl, rfl, rfl, pendRel_of_eq _ rfl⟩


/-! ### The text outside envelopes is public too -/

/-- The text outside envelopes, from the events. -/
def safeText : List Ev → List Tok
  | [] => []
  | .out x :: r => .b x :: safeText r
  | _ :: r => safeText r

theorem dropEnv_eq_safeText (t : List Tok) :
    (scanWFFrom false t = some false → dropEnvAux none t = safeText (abs .closed t)) ∧
    (∀ acc, scanWFFrom true t = some false → dropEnvAux (some acc) t = safeText (abs .openEmpty t)) ∧
    (∀ acc, scanWFFrom true t = some false → dropEnvAux (some acc) t = safeText (abs .openFull t)) := by
  have so := abs_open_congr safeText (fun _ => rfl)
  have key : (scanWFFrom false t = some false → dropEnvAux none t = safeText (abs .closed t)) ∧
      (scanWFFrom true t = some false → ∀ acc, dropEnvAux (some acc) t = safeText (abs .openFull t)) := by
    apply scanWF_induction <;> intros <;>
      simp only [dropEnvAux, abs, absTok, stStep, safeText, List.singleton_append, List.nil_append, *]
  exact ⟨key.1, fun acc h => so t ▸ key.2 h acc, fun acc h => key.2 h acc⟩

theorem dropEnv_eq_of_brel (b1 b2 : Buffer) (h : BRel b1 b2) :
    dropEnv b1.redactableBytes = dropEnv b2.redactableBytes := by
  have ⟨f1, _, _⟩ := finalize_full b1 h.i1
  have ⟨f2, _, _⟩ := finalize_full b2 h.i2
  have e := finalize_rel b1 b2 h
  unfold dropEnv Buffer.redactableBytes dropEnvT
  rw [(dropEnv_eq_safeText _).1 (scanWF_of_scan _ _ _ f1.sc), (dropEnv_eq_safeText _).1 (scanWF_of_scan _ _ _ f2.sc)]
  unfold evB evT at e
  rw [e]

end Redact
