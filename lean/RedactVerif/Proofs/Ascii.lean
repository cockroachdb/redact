import RedactVerif.Model.Printer
/-
ASCII byte strings: every literal the printer writes is one, and padding and truncation keep
them so.
-/
namespace Redact

def Asc (s : List Byte) : Prop := ∀ c ∈ s, c < 0x80

theorem asc_of_all {s : List Byte} (h : s.all (· < 0x80) = true) : Asc s := by
  intro c hc
  have := List.all_eq_true.mp h c hc
  simpa using this

theorem asc_nil : Asc [] := fun _ h => by simp at h
theorem asc_append {a b : List Byte} (ha : Asc a) (hb : Asc b) : Asc (a ++ b) := by
  intro c hc
  simp only [List.mem_append] at hc
  rcases hc with h | h
  · exact ha c h
  · exact hb c h
theorem asc_take {a : List Byte} (ha : Asc a) (n : Nat) : Asc (a.take n) := fun c hc => ha c (List.mem_of_mem_take hc)
theorem asc_replicate (n : Nat) (x : Byte) (hx : x < 0x80) : Asc (List.replicate n x) := by
  intro c hc
  rw [List.mem_replicate] at hc
  rw [hc.2]; exact hx

theorem asc_padding (f : FmtS) (n : Int) : Asc (padding f n) := by
  unfold padding
  split
  · exact asc_nil
  · split
    · exact asc_replicate _ _ (by decide)
    · exact asc_replicate _ _ (by decide)

theorem asc_padStr (f : FmtS) {s : List Byte} (h : Asc s) : Asc (padStr f s) := by
  unfold padStr
  split
  · exact h
  · dsimp only
    split
    · exact asc_append (asc_padding _ _) h
    · exact asc_append h (asc_padding _ _)

theorem asc_fmtSAscii (f : FmtS) {s : List Byte} (h : Asc s) : Asc (fmtSAscii f s) := by
  unfold fmtSAscii
  apply asc_padStr
  split
  · exact asc_take h _
  · exact h

end Redact
