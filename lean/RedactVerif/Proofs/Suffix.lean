import RedactVerif.Model.Printer
/-
The stages of the directive parser (`parseFlags`, `parsenum`, `argNumber`, `widthStage`, `precStage`,
`decodeVerb`) only drop a prefix of the format: what remains is a suffix of what they were given.
-/
namespace Redact

theorem parsenumAux_suffix (num : Nat) (isnum : Bool) (s : List Byte) : (parsenumAux num isnum s).2.2 <:+ s := by
  induction s generalizing num isnum with
  | nil => simp [parsenumAux]
  | cons c r ih =>
    unfold parsenumAux
    split
    · split
      · exact List.nil_suffix
      · exact List.IsSuffix.trans (ih _ _) (List.suffix_cons _ _)
    · exact List.suffix_refl _

theorem parsenum_suffix (s : List Byte) : (parsenum s).2.2 <:+ s := parsenumAux_suffix 0 false s

theorem parseFlags_suffix (fr : Bool) (st : FState) (s : List Byte) : (parseFlags fr st s).2 <:+ s := by
  fun_induction parseFlags fr st s
  case case1 | case7 => exact List.suffix_refl _
  -- a flag byte was read: the rest, by induction, is a suffix of the tail
  all_goals exact List.IsSuffix.trans ‹_› (List.suffix_cons _ _)

theorem decodeVerb_suffix (s : List Byte) (v : Nat) (r : List Byte) (h : decodeVerb s = some (v, r)) : r <:+ s := by
  unfold decodeVerb at h
  repeat' split at h
  all_goals first
    | (simp only [Option.some.injEq, Prod.mk.injEq] at h; obtain ⟨_, rfl⟩ := h
       first
        | exact List.suffix_cons _ _
        | exact ⟨[_, _], rfl⟩
        | exact ⟨[_, _, _], rfl⟩
        | exact ⟨[_, _, _, _], rfl⟩)
    | cases h

theorem argNumber_suffix (p : PP) (k : Nat) (f : List Byte) (n : Nat) : (argNumber p k f n).2.2.1 <:+ f := by
  unfold argNumber
  repeat' split
  all_goals first
    | exact List.drop_suffix _ _
    | exact List.suffix_refl _

theorem widthStage_suffix (p : PP) (args : List Val) (k : Nat) (r : List Byte) (ai : Bool) : (widthStage p args k r ai).2.2.1 <:+ r := by
  unfold widthStage
  split
  · exact List.suffix_cons _ _
  · exact parsenum_suffix _

theorem precStage_suffix (p : PP) (args : List Val) (k : Nat) (r : List Byte) (ai : Bool) : (precStage p args k r ai).2.2.1 <:+ r := by
  unfold precStage
  split
  · rename_i c r''
    dsimp only
    have h1 := argNumber_suffix (if ai = true then { p with goodArgNum := false } else p) k (c :: r'') args.length
    generalize argNumber (if ai = true then { p with goodArgNum := false } else p) k (c :: r'') args.length = an at h1
    obtain ⟨py, ky, ry, aiy⟩ := an
    dsimp only at h1 ⊢
    have h2 : ry <:+ 0x2E :: c :: r'' := List.IsSuffix.trans h1 (List.suffix_cons _ _)
    split
    · rename_i r3
      exact List.IsSuffix.trans (List.suffix_cons _ _) h2
    · exact List.IsSuffix.trans (parsenum_suffix _) h2
  · exact List.suffix_refl _

end Redact
