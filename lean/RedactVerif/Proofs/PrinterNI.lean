import RedactVerif.Proofs.PrinterInv
import RedactVerif.Proofs.NI
/-
Non-interference for the whole printer model (C02, printer level): two runs of
any function of `Model/Printer.lean` on the same format and the same value
tree, under two rendering oracles that agree on every leaf declared public and
give same-shape renderings for every other leaf, end in buffers a low observer
cannot tell apart (`BRel`), with all other printer state equal.

The relation is a logic of the printer (`niLogic`, Proofs/Sim.lean) whose operand
predicate depends on the override in force, so `rspec_all` is the fundamental lemma
read at that logic.
-/
namespace Redact

section Sec
variable (pub : Nat → Prop)

mutual
/-- Every leaf rendering reachable in the value is public. -/
def AllPubV : Val → Prop
  | .nil => True
  | .leaf id _ _ _ _ _ => pub id
  | .safeW v => AllPubV v
  | .unsafeW v => AllPubV v
  | .redactable _ _ => True
  | .meth _ _ _ _ _ ret sc under => pub ret ∧ AllPubS sc ∧ AllPubV under
  | .slice _ _ _ es => AllPubVs es
  | .map _ _ _ _ ks vs => AllPubVs ks ∧ AllPubVs vs
  | .struct _ _ fs => AllPubFs fs
  | .ptrTo _ v => AllPubV v
def AllPubVs : Vals → Prop
  | .nil => True
  | .cons v r => AllPubV v ∧ AllPubVs r
def AllPubFs : Fields → Prop
  | .nil => True
  | .cons _ _ _ v r => AllPubV v ∧ AllPubFs r
def AllPubS : Script → Prop
  | .done => True
  | .safeString _ k => AllPubS k
  | .unsafeString _ k => AllPubS k
  | .safeRune _ k => AllPubS k
  | .write _ k => AllPubS k
  | .unsafeLeaf id k => pub id ∧ AllPubS k
  | .print args k => AllPubVs args ∧ AllPubS k
  | .printf _ args k => AllPubVs args ∧ AllPubS k
  | .indep k => AllPubS k
  | .panic payload => AllPubV payload
end

mutual
/-- What is declared safe is public: leaves of `SafeValue`/registered types, everything
inside `Safe(…)`, inside values of registered or `SafeValue` types, and the text a
`SafeMessager` returns (also underneath an `Unsafe(…)` wrapper: a declaration of safety
does not depend on where the value is printed). Nothing else is constrained. -/
def SecV : Val → Prop
  | .nil => True
  | .leaf id _ _ _ sv reg => (sv = true ∨ reg = true) → pub id
  | .safeW v => AllPubV pub v
  | .unsafeW v => SecV v
  | .redactable _ _ => True
  | .meth ms _ sv reg _ ret sc under =>
    ((sv = true ∨ reg = true) → pub ret ∧ AllPubS pub sc ∧ AllPubV pub under) ∧
    (ms.safeMessager = true → pub ret) ∧ SecS sc ∧ SecV under
  | .slice _ _ _ es => SecVs es
  | .map _ _ _ _ ks vs => SecVs ks ∧ SecVs vs
  | .struct _ reg fs => (reg = true → AllPubFs pub fs) ∧ SecFs fs
  | .ptrTo _ v => SecV v
def SecVs : Vals → Prop
  | .nil => True
  | .cons v r => SecV v ∧ SecVs r
def SecFs : Fields → Prop
  | .nil => True
  | .cons _ _ _ v r => SecV v ∧ SecFs r
def SecS : Script → Prop
  | .done => True
  | .safeString _ k => SecS k
  | .unsafeString _ k => SecS k
  | .safeRune _ k => SecS k
  | .write _ k => SecS k
  | .unsafeLeaf _ k => SecS k
  | .print args k => SecVs args ∧ SecS k
  | .printf _ args k => SecVs args ∧ SecS k
  | .indep k => SecS k
  | .panic payload => SecV payload
end

def SecAt (ov : Override) (v : Val) : Prop :=
  match ov with
  | .ovSafe => AllPubV pub v
  | .no => SecV pub v
  | .ovUnsafe => SecV pub v

def SecAtS (ov : Override) (sc : Script) : Prop :=
  match ov with
  | .ovSafe => AllPubS pub sc
  | .no => SecS pub sc
  | .ovUnsafe => SecS pub sc

def SecAtVs (ov : Override) (vs : Vals) : Prop :=
  match ov with
  | .ovSafe => AllPubVs pub vs
  | .no => SecVs pub vs
  | .ovUnsafe => SecVs pub vs

def SecAtFs (ov : Override) (fs : Fields) : Prop :=
  match ov with
  | .ovSafe => AllPubFs pub fs
  | .no => SecFs pub fs
  | .ovUnsafe => SecFs pub fs

def SecAtL (ov : Override) (l : List Val) : Prop := ∀ v ∈ l, SecAt pub ov v

end Sec

/-- The two rendering oracles: public leaves render identically, the others with the same shape. -/
def RenderRel (pub : Nat → Prop) (r1 r2 : Nat → List Byte → Option (List Byte)) : Prop :=
  ∀ id d, match r1 id d, r2 id d with
    | none, none => True
    | some a, some b => canonB a = canonB b ∧ (pub id → a = b)
    | _, _ => False

/-- The error hook treats its operand's text as unsafe. -/
def HookSec (pub : Nat → Prop) (h : Option (Nat → Nat → Script)) : Prop :=
  ∀ f, h = some f → ∀ ret verb, SecS pub (f ret verb) ∧ (pub ret → AllPubS pub (f ret verb))


mutual
theorem sec_of_allPubV (pub : Nat → Prop) : (v : Val) → AllPubV pub v → SecV pub v
  | .nil, _ => trivial
  | .leaf _ _ _ _ _ _, h => fun _ => h
  | .safeW _, h => h
  | .unsafeW v, h => sec_of_allPubV pub v h
  | .redactable _ _, _ => trivial
  | .meth _ _ _ _ _ _ sc under, h =>
    ⟨fun _ => h, fun _ => h.1, secS_of_allPubS pub sc h.2.1, sec_of_allPubV pub under h.2.2⟩
  | .slice _ _ _ es, h => sec_of_allPubVs pub es h
  | .map _ _ _ _ ks vs, h => ⟨sec_of_allPubVs pub ks h.1, sec_of_allPubVs pub vs h.2⟩
  | .struct _ _ fs, h => ⟨fun _ => h, sec_of_allPubFs pub fs h⟩
  | .ptrTo _ v, h => sec_of_allPubV pub v h
theorem sec_of_allPubVs (pub : Nat → Prop) : (vs : Vals) → AllPubVs pub vs → SecVs pub vs
  | .nil, _ => trivial
  | .cons v r, h => ⟨sec_of_allPubV pub v h.1, sec_of_allPubVs pub r h.2⟩
theorem sec_of_allPubFs (pub : Nat → Prop) : (fs : Fields) → AllPubFs pub fs → SecFs pub fs
  | .nil, _ => trivial
  | .cons _ _ _ v r, h => ⟨sec_of_allPubV pub v h.1, sec_of_allPubFs pub r h.2⟩
theorem secS_of_allPubS (pub : Nat → Prop) : (sc : Script) → AllPubS pub sc → SecS pub sc
  | .done, _ => trivial
  | .safeString _ k, h => secS_of_allPubS pub k h
  | .unsafeString _ k, h => secS_of_allPubS pub k h
  | .safeRune _ k, h => secS_of_allPubS pub k h
  | .write _ k, h => secS_of_allPubS pub k h
  | .unsafeLeaf _ k, h => secS_of_allPubS pub k h.2
  | .print args k, h => ⟨sec_of_allPubVs pub args h.1, secS_of_allPubS pub k h.2⟩
  | .printf _ args k, h => ⟨sec_of_allPubVs pub args h.1, secS_of_allPubS pub k h.2⟩
  | .indep k, h => secS_of_allPubS pub k h
  | .panic payload, h => sec_of_allPubV pub payload h
end


/-- Two printer states that differ at most in what a low observer cannot see of the buffer. -/
structure PRel (p1 p2 : PP) : Prop where
  b : BRel p1.buf p2.buf
  nr : p1.buf.mode ≠ .raw
  ov : p2.override = p1.override
  f : p2.f = p1.f
  er : p2.erroring = p1.erroring
  pa : p2.panicking = p1.panicking
  we : p2.wrapErrs = p1.wrapErrs
  wd : p2.wrappedErr = p1.wrappedErr
  ro : p2.reordered = p1.reordered
  ga : p2.goodArgNum = p1.goodArgNum

/-- Related results; on success the override is the one the call started with (`ov0`); when a
panic propagates, the buffers it carries are related and the payload is the same value. -/
def RR (pub : Nat → Prop) (ov0 : Override) (r1 r2 : Res) : Prop :=
  match r1, r2 with
  | .ok q1, .ok q2 => PRel q1 q2 ∧ q1.override = ov0
  | .panic b1 pl1, .panic b2 pl2 => BRel b1 b2 ∧ pl2 = pl1 ∧ ValOk pl1 ∧ SecAt pub ov0 pl1
  | .fuel, .fuel => True
  | .unsupported, .unsupported => True
  | _, _ => False

variable {pub : Nat → Prop}

theorem PRel.mode2 {p1 p2 : PP} (h : PRel p1 p2) : p2.buf.mode = p1.buf.mode := h.b.mode.symm

theorem RR_ok {ov0 : Override} {q1 q2 : PP} (h : PRel q1 q2) (ho : q1.override = ov0) : RR pub ov0 (.ok q1) (.ok q2) := ⟨h, ho⟩
theorem RR_fuel (ov0 : Override) : RR pub ov0 .fuel .fuel := trivial
theorem RR_panic {ov0 : Override} {b1 b2 : Buffer} {pl : Val} (hb : BRel b1 b2) (hv : ValOk pl) (hs : SecAt pub ov0 pl) :
    RR pub ov0 (.panic b1 pl) (.panic b2 pl) := ⟨hb, rfl, hv, hs⟩
theorem RR_unsupported (ov0 : Override) : RR pub ov0 .unsupported .unsupported := trivial

theorem P_w {p1 p2 : PP} (h : PRel p1 p2) (s : List Byte) : PRel (p1.w s) (p2.w s) :=
  ⟨write_rel_same _ _ s h.b h.nr, by show (p1.buf.write s).mode ≠ _; rw [write_mode]; exact h.nr,
    h.ov, h.f, h.er, h.pa, h.we, h.wd, h.ro, h.ga⟩
theorem P_wb {p1 p2 : PP} (h : PRel p1 p2) (c : Byte) : PRel (p1.wb c) (p2.wb c) :=
  ⟨writeByte_rel_same _ _ c h.b h.nr, by show (p1.buf.writeByte c).mode ≠ _; rw [writeByte_mode]; exact h.nr,
    h.ov, h.f, h.er, h.pa, h.we, h.wd, h.ro, h.ga⟩
theorem P_wr {p1 p2 : PP} (h : PRel p1 p2) (r : Int) : PRel (p1.wr r) (p2.wr r) :=
  ⟨writeRune_rel_same _ _ r h.b h.nr, by show (p1.buf.writeRune r).mode ≠ _; rw [writeRune_mode]; exact h.nr,
    h.ov, h.f, h.er, h.pa, h.we, h.wd, h.ro, h.ga⟩

theorem P_ite {c : Prop} [Decidable c] {a1 b1 a2 b2 : PP} (ha : PRel a1 a2) (hb : PRel b1 b2) :
    PRel (if c then a1 else b1) (if c then a2 else b2) := by
  split <;> assumption

theorem RR_ite {ov0 : Override} {c : Prop} [Decidable c] {a1 b1 a2 b2 : Res} (ha : RR pub ov0 a1 a2) (hb : RR pub ov0 b1 b2) :
    RR pub ov0 (if c then a1 else b1) (if c then a2 else b2) := by
  split <;> assumption

theorem P_setMode {p1 p2 : PP} (h : PRel p1 p2) (m : Mode) (hm : m ≠ .raw) :
    PRel { p1 with buf := p1.buf.setMode m } { p2 with buf := p2.buf.setMode m } :=
  ⟨setMode_rel _ _ m h.b, by show (p1.buf.setMode m).mode ≠ _; rw [setMode_mode]; exact hm,
    h.ov, h.f, h.er, h.pa, h.we, h.wd, h.ro, h.ga⟩

structure StartOk (start : PP → PP × PP.Restorer) : Prop where
  rel : ∀ p1 p2, PRel p1 p2 → PRel (start p1).1 (start p2).1
  rest1 : ∀ p, (start p).2 = ⟨p.buf.mode, p.override⟩
  /-- what is public enough inside the bracket is public enough outside it -/
  mono : ∀ (pub : Nat → Prop) p v, SecAt pub (start p).1.override v → SecAt pub p.override v

theorem RR_bracket {ov0 : Override} (start : PP → PP × PP.Restorer) (hs : StartOk start)
    {p1 p2 : PP} (h : PRel p1 p2) (ho : p1.override = ov0) (body1 body2 : PP → Res)
    (hb : RR pub (start p1).1.override (body1 (start p1).1) (body2 (start p2).1)) :
    RR pub ov0 (bracket start p1 body1) (bracket start p2 body2) := by
  unfold bracket
  have e1 := hs.rest1 p1
  have e2 := hs.rest1 p2
  have hm := hs.mono pub p1
  generalize start p1 = sp1 at hb e1 hm
  generalize start p2 = sp2 at hb e2
  obtain ⟨q1, r1⟩ := sp1
  obtain ⟨q2, r2⟩ := sp2
  simp only at hb e1 e2 ⊢
  subst e1 e2
  cases hr1 : body1 q1 <;> cases hr2 : body2 q2 <;> rw [hr1, hr2] at hb <;> simp only [RR] at hb <;> try (exact hb.elim)
  · rename_i x1 x2
    simp only [Res.bind, RR, PP.restore]
    refine ⟨⟨?_, ?_, h.ov, hb.1.f, hb.1.er, hb.1.pa, hb.1.we, hb.1.wd, hb.1.ro, hb.1.ga⟩, ho⟩
    · show BRel (x1.buf.setMode p1.buf.mode) (x2.buf.setMode p2.buf.mode)
      rw [h.mode2]; exact setMode_rel _ _ _ hb.1.b
    · show (x1.buf.setMode p1.buf.mode).mode ≠ _
      rw [setMode_mode]; exact h.nr
  · rename_i b1 pl1 b2 pl2
    obtain ⟨hbr, rfl, hv, hsec⟩ := hb
    exact RR_panic (by rw [h.mode2]; exact setMode_rel _ _ _ hbr) hv (ho ▸ hm _ hsec)
  all_goals trivial

theorem secAt_mono_safe (pub : Nat → Prop) (ov : Override) (v : Val)
    (h : SecAt pub (if ov = .no then .ovSafe else ov) v) : SecAt pub ov v := by
  cases ov
  · exact sec_of_allPubV pub v h
  · exact h
  · exact h

theorem secAt_mono_unsafe (pub : Nat → Prop) (ov : Override) (v : Val)
    (h : SecAt pub (if ov = .no then .ovUnsafe else ov) v) : SecAt pub ov v := by
  cases ov <;> exact h

/-- Every `start*()` is a guarded switch of mode and override that remembers what it replaced. -/
theorem StartOk.guarded (c : Override → Prop) [DecidablePred c] {m : Mode} (hm : m ≠ .raw) (o : Override → Override)
    {start : PP → PP × PP.Restorer}
    (hs : ∀ p, start p = (if c p.override then { p with buf := p.buf.setMode m, override := o p.override } else p,
      ⟨p.buf.mode, p.override⟩))
    (mono : ∀ (pub : Nat → Prop) ov v, SecAt pub (if c ov then o ov else ov) v → SecAt pub ov v) : StartOk start := by
  refine ⟨fun p1 p2 h => ?_, fun p => by rw [hs], fun pub p v hv => mono pub p.override v ?_⟩
  · rw [hs, hs, h.ov]
    split
    · exact ⟨setMode_rel _ _ _ h.b, by show (p1.buf.setMode _).mode ≠ _; rw [setMode_mode]; exact hm,
        rfl, h.f, h.er, h.pa, h.we, h.wd, h.ro, h.ga⟩
    · exact h
  · rw [hs] at hv
    split at hv <;> rename_i hc
    · rw [if_pos hc]; exact hv
    · rw [if_neg hc]; exact hv

theorem startOk_safeOverride : StartOk PP.startSafeOverride :=
  .guarded (· = .no) (by decide) (fun _ => .ovSafe) (fun _ => rfl) secAt_mono_safe

theorem startOk_unsafeOverride : StartOk PP.startUnsafeOverride :=
  .guarded (· = .no) (by decide) (fun _ => .ovUnsafe) (fun _ => rfl) secAt_mono_unsafe

theorem startOk_unsafe : StartOk PP.startUnsafe :=
  .guarded (· ≠ .ovSafe) (m := .unsafeEsc) (by decide) id (fun _ => rfl) fun _ ov _ h => by split at h <;> exact h

theorem start_safeOverride_ov (p : PP) :
    p.startSafeOverride.1.override = (if p.override = .no then .ovSafe else p.override) := by
  unfold PP.startSafeOverride; split <;> simp_all

theorem start_unsafeOverride_ov (p : PP) :
    p.startUnsafeOverride.1.override = (if p.override = .no then .ovUnsafe else p.override) := by
  unfold PP.startUnsafeOverride; split <;> simp_all

theorem start_unsafe_ov (p : PP) : p.startUnsafe.1.override = p.override := by
  unfold PP.startUnsafe; split <;> rfl


structure EnvRel (pub : Nat → Prop) (env1 env2 : Env) : Prop where
  hook : env2.hook = env1.hook
  render : RenderRel pub env1.render env2.render
  hsec : HookSec pub env1.hook
  hok : EnvOk env1

theorem P_w2 {p1 p2 : PP} (h : PRel p1 p2) (a b : List Byte)
    (hab : if p1.buf.mode = .unsafeEsc then canonB a = canonB b else a = b) : PRel (p1.w a) (p2.w b) := by
  refine ⟨write_rel _ _ _ _ h.b ?_ (fun hh => absurd hh h.nr) (fun hh => absurd hh h.nr),
    by show (p1.buf.write a).mode ≠ _; rw [write_mode]; exact h.nr,
    h.ov, h.f, h.er, h.pa, h.we, h.wd, h.ro, h.ga⟩
  unfold PendRel
  split
  · rename_i hu; rw [if_pos hu] at hab; exact hab
  · rename_i hu; rw [if_neg hu] at hab; rw [if_neg h.nr]; exact hab

/-- One oracle-rendered write: unsafe unless an enclosing `Safe` override is active, in which
case the leaf must be public. -/
theorem RR_unsafeWrite {pub : Nat → Prop} {ov0 : Override} {p1 p2 : PP} (h : PRel p1 p2) (ho : p1.override = ov0)
    (a b : List Byte) (hab : canonB a = canonB b) (hpub : ov0 = .ovSafe → a = b) :
    RR pub ov0 (bracket PP.startUnsafe p1 fun q => .ok (q.w a)) (bracket PP.startUnsafe p2 fun q => .ok (q.w b)) := by
  have _ := pub
  apply RR_bracket _ startOk_unsafe h ho
  have hs := startOk_unsafe.rel p1 p2 h
  refine ⟨P_w2 hs a b ?_, rfl⟩
  by_cases hc : p1.override ≠ .ovSafe
  · have : p1.startUnsafe.1.buf.mode = .unsafeEsc := by
      unfold PP.startUnsafe; rw [if_pos hc]; exact setMode_mode _ _
    rw [if_pos this]; exact hab
  · have hc' : p1.override = .ovSafe := by simpa using hc
    rw [hpub (ho ▸ hc')]
    split <;> rfl

theorem RR_leafWrite1 {pub : Nat → Prop} {env1 env2 : Env} (he : EnvRel pub env1 env2) {ov0 : Override}
    {p1 p2 : PP} (h : PRel p1 p2) (ho : p1.override = ov0) (id verb : Nat) (hpub : ov0 = .ovSafe → pub id) :
    RR pub ov0 (leafWrite1 env1 p1 id verb) (leafWrite1 env2 p2 id verb) := by
  unfold leafWrite1
  rw [h.f]
  cases hd : directive p1.f verb with
  | none => exact RR_unsupported _
  | some d =>
    simp only
    have hr := he.render id d
    cases h1 : env1.render id d <;> cases h2 : env2.render id d <;> rw [h1, h2] at hr <;> simp only at hr ⊢
    · exact RR_unsupported _
    · rename_i a b
      exact RR_unsafeWrite (pub := pub) h ho a b hr.1 (fun hh => hr.2 (hpub hh))

/-- A finished redactable operand: the same bytes in both runs, written raw. -/
theorem RR_preRedactable {ov0 : Override} {p1 p2 : PP} (h : PRel p1 p2) (ho : p1.override = ov0)
    (content : List Byte) (hc : Obtainable content) :
    RR pub ov0 (bracket PP.startPreRedactable p1 fun q => .ok (q.w content))
           (bracket PP.startPreRedactable p2 fun q => .ok (q.w content)) := by
  unfold bracket PP.startPreRedactable
  by_cases hu : p1.override ≠ .ovUnsafe
  · have hu2 : p2.override ≠ .ovUnsafe := by rw [h.ov]; exact hu
    rw [if_pos hu, if_pos hu2]
    simp only [Res.bind, RR, PP.restore, PP.w]
    have b1 := setMode_rel _ _ .raw h.b
    have m1 : (p1.buf.setMode .raw).mode = .raw := setMode_mode _ _
    have b2 := write_rel _ _ content content b1 (by rw [m1]; unfold PendRel; simp) (fun _ => hc) (fun _ => hc)
    refine ⟨⟨?_, ?_, h.ov, h.f, h.er, h.pa, h.we, h.wd, h.ro, h.ga⟩, ho⟩
    · show BRel (((p1.buf.setMode .raw).write content).setMode p1.buf.mode) (((p2.buf.setMode .raw).write content).setMode p2.buf.mode)
      rw [h.mode2]; exact setMode_rel _ _ _ b2
    · show (((p1.buf.setMode .raw).write content).setMode p1.buf.mode).mode ≠ _
      rw [setMode_mode]; exact h.nr
  · have hu2 : ¬ p2.override ≠ .ovUnsafe := by rw [h.ov]; exact hu
    rw [if_neg hu, if_neg hu2]
    simp only [Res.bind, RR, PP.restore]
    have hw := P_w h content
    refine ⟨⟨?_, ?_, h.ov, h.f, h.er, h.pa, h.we, h.wd, h.ro, h.ga⟩, ho⟩
    · show BRel ((p1.buf.write content).setMode p1.buf.mode) ((p2.buf.write content).setMode p2.buf.mode)
      rw [h.mode2]; exact setMode_rel _ _ _ hw.b
    · show ((p1.buf.write content).setMode p1.buf.mode).mode ≠ _
      rw [setMode_mode]; exact h.nr


def SR (pub : Nat → Prop) (ov0 : Override) (o1 o2 : SRes) : Prop :=
  match o1, o2 with
  | .ok q1, .ok q2 => PRel q1 q2 ∧ q1.override = ov0
  | .raised q1 pl1, .raised q2 pl2 => PRel q1 q2 ∧ q1.override = ov0 ∧ pl2 = pl1 ∧ ValOk pl1 ∧ SecAt pub ov0 pl1
  | .abort r1, .abort r2 => RR pub ov0 r1 r2
  | _, _ => False

def RB (pub : Nat → Prop) (ov0 : Override) (x1 x2 : Bool × Res) : Prop := x1.1 = x2.1 ∧ RR pub ov0 x1.2 x2.2

/-- What method dispatch needs to know about a value with methods under override `ov`. -/
def MSec (pub : Nat → Prop) (ov : Override) (ms : Methods) (ret : Nat) (sc : Script) : Prop :=
  SecAtS pub ov sc ∧ (ov = .ovSafe → pub ret) ∧ (ov = .no → ms.safeMessager = true → pub ret)

structure RSpec (pub : Nat → Prop) (env1 env2 : Env) (n : Nat) : Prop where
  printArg : ∀ ov0 p1 p2 v verb, PRel p1 p2 → p1.override = ov0 → ValOk v → SecAt pub ov0 v →
    RR pub ov0 (printArg env1 n p1 v verb) (printArg env2 n p2 v verb)
  printArgBody : ∀ ov0 p1 p2 v verb, PRel p1 p2 → p1.override = ov0 → ValOk v → SecAt pub ov0 v →
    RR pub ov0 (printArgBody env1 n p1 v verb) (printArgBody env2 n p2 v verb)
  badVerb : ∀ ov0 p1 p2 v verb via, PRel p1 p2 → p1.override = ov0 → ValOk v → SecAt pub ov0 v →
    RR pub ov0 (badVerb env1 n p1 v verb via) (badVerb env2 n p2 v verb via)
  handleMethods : ∀ ov0 p1 p2 v verb, PRel p1 p2 → p1.override = ov0 → ValOk v → SecAt pub ov0 v →
    RB pub ov0 (handleMethods env1 n p1 v verb) (handleMethods env2 n p2 v verb)
  methDispatch : ∀ ov0 p1 p2 v ms nr ret sc verb, PRel p1 p2 → p1.override = ov0 → ValOk v → ScriptOk sc → SecAt pub ov0 v →
    MSec pub ov0 ms ret sc →
    RB pub ov0 (methDispatch env1 n p1 v ms nr ret sc verb) (methDispatch env2 n p2 v ms nr ret sc verb)
  fmtString : ∀ ov0 p1 p2 v ret verb, PRel p1 p2 → p1.override = ov0 → ValOk v → (verbOkFor .str verb = false → SecAt pub ov0 v) →
    (ov0 = .ovSafe → pub ret) →
    RR pub ov0 (fmtString env1 n p1 v ret verb) (fmtString env2 n p2 v ret verb)
  catchPanic : ∀ p01 p02 ov0 arg verb m nr out1 out2, SR pub ov0 out1 out2 →
    RR pub ov0 (catchPanic env1 n p01 arg verb m nr out1) (catchPanic env2 n p02 arg verb m nr out2)
  runScript : ∀ ov0 p1 p2 sc, PRel p1 p2 → p1.override = ov0 → ScriptOk sc → SecAtS pub ov0 sc →
    SR pub ov0 (runScript env1 n p1 sc) (runScript env2 n p2 sc)
  printValue : ∀ ov0 p1 p2 v verb d ro, PRel p1 p2 → p1.override = ov0 → ValOk v → SecAt pub ov0 v →
    RR pub ov0 (printValue env1 n p1 v verb d ro) (printValue env2 n p2 v verb d ro)
  printSlot : ∀ ov0 p1 p2 v verb d i ro, PRel p1 p2 → p1.override = ov0 → ValOk v → SecAt pub ov0 v →
    RR pub ov0 (printSlot env1 n p1 v verb d i ro) (printSlot env2 n p2 v verb d i ro)
  slotMethods : ∀ ov0 p1 p2 v verb, PRel p1 p2 → p1.override = ov0 → ValOk v → SecAt pub ov0 v →
    RB pub ov0 (slotMethods env1 n p1 v verb) (slotMethods env2 n p2 v verb)
  printFields : ∀ ov0 p1 p2 fs verb d ro f, PRel p1 p2 → p1.override = ov0 → FieldsOk fs → SecAtFs pub ov0 fs →
    RR pub ov0 (printFields env1 n p1 fs verb d ro f) (printFields env2 n p2 fs verb d ro f)
  printElems : ∀ ov0 p1 p2 vs verb d i ro f, PRel p1 p2 → p1.override = ov0 → ValsOk vs → SecAtVs pub ov0 vs →
    RR pub ov0 (printElems env1 n p1 vs verb d i ro f) (printElems env2 n p2 vs verb d i ro f)
  printPairs : ∀ ov0 p1 p2 ks vs verb d ik iv ro f, PRel p1 p2 → p1.override = ov0 → ValsOk ks → ValsOk vs →
    SecAtVs pub ov0 ks → SecAtVs pub ov0 vs →
    RR pub ov0 (printPairs env1 n p1 ks vs verb d ik iv ro f) (printPairs env2 n p2 ks vs verb d ik iv ro f)
  doPrint : ∀ ov0 p1 p2 args, PRel p1 p2 → p1.override = ov0 → ListOk args → SecAtL pub ov0 args →
    RR pub ov0 (doPrint env1 n p1 args) (doPrint env2 n p2 args)
  doPrintLoop : ∀ ov0 p1 p2 args k ps, PRel p1 p2 → p1.override = ov0 → ListOk args → SecAtL pub ov0 args →
    RR pub ov0 (doPrintLoop env1 n p1 args k ps) (doPrintLoop env2 n p2 args k ps)
  doPrintf : ∀ ov0 p1 p2 f args, PRel p1 p2 → p1.override = ov0 → ListOk args → SecAtL pub ov0 args →
    RR pub ov0 (doPrintf env1 n p1 f args) (doPrintf env2 n p2 f args)
  fmtLoop : ∀ ov0 p1 p2 f args k ai, PRel p1 p2 → p1.override = ov0 → ListOk args → SecAtL pub ov0 args →
    RR pub ov0 (fmtLoop env1 n p1 f args k ai) (fmtLoop env2 n p2 f args k ai)
  directiveTail : ∀ ov0 p1 p2 f args k ai, PRel p1 p2 → p1.override = ov0 → ListOk args → SecAtL pub ov0 args →
    RR pub ov0 (directiveTail env1 n p1 f args k ai) (directiveTail env2 n p2 f args k ai)
  finishPrintf : ∀ ov0 p1 p2 args k, PRel p1 p2 → p1.override = ov0 → ListOk args → SecAtL pub ov0 args →
    RR pub ov0 (finishPrintf env1 n p1 args k) (finishPrintf env2 n p2 args k)
  extraLoop : ∀ ov0 p1 p2 args f, PRel p1 p2 → p1.override = ov0 → ListOk args → SecAtL pub ov0 args →
    RR pub ov0 (extraLoop env1 n p1 args f) (extraLoop env2 n p2 args f)

variable {env1 env2 : Env}

theorem secAt_safeW {ov : Override} {v : Val} (h : SecAt pub ov (.safeW v)) :
    SecAt pub (if ov = .no then .ovSafe else ov) v := by
  cases ov
  · simpa [SecAt, SecV, AllPubV] using h
  · simpa [SecAt, SecV, AllPubV] using h
  · have : AllPubV pub v := by simpa [SecAt, SecV] using h
    exact sec_of_allPubV pub v this

theorem secAt_unsafeW {ov : Override} {v : Val} (h : SecAt pub ov (.unsafeW v)) :
    SecAt pub (if ov = .no then .ovUnsafe else ov) v := by
  cases ov
  · simpa [SecAt, SecV] using h
  · simpa [SecAt, AllPubV] using h
  · simpa [SecAt, SecV] using h

/-- A value of a registered or `SafeValue` type is public throughout. -/
theorem secV_flagged {v : Val} (h : SecV pub v) (hf : isRegistered v = true ∨ isSafeValue v = true) : AllPubV pub v := by
  cases v <;> simp only [isRegistered, isSafeValue, Bool.false_eq_true, or_self, or_false, false_or] at hf
  ·
    simp only [SecV] at h
    simp only [AllPubV]
    exact h (hf.symm)
  · simpa [SecV, AllPubV] using h
  · simp only [SecV] at h
    simp only [AllPubV]
    exact h.1 hf.symm
  · simp only [SecV] at h
    simp only [AllPubV]
    exact h.1 hf

theorem secAt_flagged {ov : Override} {v : Val} (h : SecAt pub ov v) (hf : isRegistered v = true ∨ isSafeValue v = true) :
    SecAt pub (if ov = .no then .ovSafe else ov) v := by
  cases ov
  · exact secV_flagged h hf
  · exact h
  · exact h

/-- Both runs update bookkeeping fields (not the buffer) in the same way. -/
syntax "prel_upd " term : tactic
macro_rules
  | `(tactic| prel_upd $h) => `(tactic|
    exact ⟨($h).b, ($h).nr,
      by first | exact ($h).ov | rfl,
      by first | exact ($h).f | rfl | (simp only []; rw [($h).f]) | simp [($h).f],
      by first | exact ($h).er | rfl,
      by first | exact ($h).pa | rfl,
      by first | exact ($h).we | rfl,
      by first | exact ($h).wd | rfl,
      by first | exact ($h).ro | rfl,
      by first | exact ($h).ga | rfl⟩)

def PO (ov0 : Override) (p1 p2 : PP) : Prop := PRel p1 p2 ∧ p1.override = ov0

theorem PO.w {ov0 : Override} {p1 p2 : PP} (h : PO ov0 p1 p2) (s : List Byte) : PO ov0 (p1.w s) (p2.w s) := ⟨P_w h.1 s, h.2⟩
theorem PO.wb {ov0 : Override} {p1 p2 : PP} (h : PO ov0 p1 p2) (c : Byte) : PO ov0 (p1.wb c) (p2.wb c) := ⟨P_wb h.1 c, h.2⟩
theorem PO.wr {ov0 : Override} {p1 p2 : PP} (h : PO ov0 p1 p2) (r : Int) : PO ov0 (p1.wr r) (p2.wr r) := ⟨P_wr h.1 r, h.2⟩

theorem secAt_leaf {ov0 : Override} {id : Nat} {k : BK} {ty : List Byte} {iv : Option Int} {sv reg : Bool}
    (h : SecAt pub ov0 (.leaf id k ty iv sv reg)) : ov0 = .ovSafe → pub id := by
  intro ho; subst ho; simpa [SecAt, AllPubV] using h

theorem msec_of_secAt {ov0 : Override} {ms : Methods} {ty : List Byte} {sv reg nr : Bool} {ret : Nat} {sc : Script} {under : Val}
    (h : SecAt pub ov0 (.meth ms ty sv reg nr ret sc under)) : MSec pub ov0 ms ret sc := by
  cases ov0
  · simp only [SecAt, SecV] at h
    exact ⟨h.2.2.1, ⟨fun hh => (by cases hh), fun _ hm => h.2.1 hm⟩⟩
  · simp only [SecAt, AllPubV] at h
    exact ⟨h.2.1, ⟨fun _ => h.1, fun hh => by cases hh⟩⟩
  · simp only [SecAt, SecV] at h
    exact ⟨h.2.2.1, ⟨fun hh => (by cases hh), fun hh => by cases hh⟩⟩

theorem secAt_of_panic {ov0 : Override} {pl : Val} (h : SecAtS pub ov0 (.panic pl)) : SecAt pub ov0 pl := by
  cases ov0 <;> simpa [SecAtS, SecAt, SecS, AllPubS] using h

theorem PO.setF {ov0 : Override} {p1 p2 : PP} (h : PO ov0 p1 p2) (g : FmtS) : PO ov0 { p1 with f := g } { p2 with f := g } :=
  ⟨⟨h.1.b, h.1.nr, h.1.ov, rfl, h.1.er, h.1.pa, h.1.we, h.1.wd, h.1.ro, h.1.ga⟩, h.2⟩
theorem PO.setPanicking {ov0 : Override} {p1 p2 : PP} (h : PO ov0 p1 p2) (e : Bool) :
    PO ov0 { p1 with panicking := e } { p2 with panicking := e } :=
  ⟨⟨h.1.b, h.1.nr, h.1.ov, h.1.f, h.1.er, rfl, h.1.we, h.1.wd, h.1.ro, h.1.ga⟩, h.2⟩

/-- Leaving a bracket: the restorers put back the mode and override of the related states the bracket was entered from. -/
theorem PO.restore {ov0 : Override} {start : PP → PP × PP.Restorer} (hs : StartOk start) {p1 p2 q1 q2 : PP}
    (h : PO ov0 p1 p2) (hq : PO (start p1).1.override q1 q2) :
    PO ov0 (q1.restore (start p1).2) (q2.restore (start p2).2) := by
  have := RR_bracket (pub := fun _ => True) start hs h.1 h.2 (fun _ => .ok q1) (fun _ => .ok q2) hq
  simp only [bracket, RR] at this
  exact this

theorem secAtS_tail {ov0 : Override} {sc k : Script} (h : SecAtS pub ov0 sc)
    (hk : (AllPubS pub sc → AllPubS pub k) ∧ (SecS pub sc → SecS pub k)) : SecAtS pub ov0 k := by
  cases ov0
  · exact hk.2 h
  · exact hk.1 h
  · exact hk.2 h

theorem secAt_under {ov0 : Override} {ms : Methods} {ty : List Byte} {sv reg nr : Bool} {ret : Nat} {sc : Script} {under : Val}
    (h : SecAt pub ov0 (.meth ms ty sv reg nr ret sc under)) : SecAt pub ov0 under := by
  cases ov0
  · simp only [SecAt, SecV] at h; exact h.2.2.2
  · simp only [SecAt, AllPubV] at h; exact h.2.2
  · simp only [SecAt, SecV] at h; exact h.2.2.2

theorem secAt_struct {ov0 : Override} {ty : List Byte} {reg : Bool} {fs : Fields}
    (h : SecAt pub ov0 (.struct ty reg fs)) : SecAtFs pub ov0 fs := by
  cases ov0
  · simp only [SecAt, SecV] at h; exact h.2
  · simp only [SecAt, AllPubV] at h; exact h
  · simp only [SecAt, SecV] at h; exact h.2

theorem secAt_slice {ov0 : Override} {ty : List Byte} {a b : Bool} {es : Vals}
    (h : SecAt pub ov0 (.slice ty a b es)) : SecAtVs pub ov0 es := by
  cases ov0
  · simp only [SecAt, SecV] at h; exact h
  · simp only [SecAt, AllPubV] at h; exact h
  · simp only [SecAt, SecV] at h; exact h

theorem secAt_map {ov0 : Override} {ty : List Byte} {a b c : Bool} {ks vs : Vals}
    (h : SecAt pub ov0 (.map ty a b c ks vs)) : SecAtVs pub ov0 ks ∧ SecAtVs pub ov0 vs := by
  cases ov0
  · simp only [SecAt, SecV] at h; exact h
  · simp only [SecAt, AllPubV] at h; exact h
  · simp only [SecAt, SecV] at h; exact h

theorem secAt_ptrTo {ov0 : Override} {ty : List Byte} {to : Val}
    (h : SecAt pub ov0 (.ptrTo ty to)) : SecAt pub ov0 to := by
  cases ov0
  · simpa [SecAt, SecV] using h
  · simpa [SecAt, AllPubV] using h
  · trivial

theorem secAtFs_cons {ov0 : Override} {nm : List Byte} {ex it : Bool} {v : Val} {r : Fields}
    (h : SecAtFs pub ov0 (.cons nm ex it v r)) : SecAt pub ov0 v ∧ SecAtFs pub ov0 r := by
  cases ov0
  · simp only [SecAtFs, SecFs] at h; exact h
  · simp only [SecAtFs, AllPubFs] at h; exact h
  · simp only [SecAtFs, SecFs] at h; exact h

theorem secAtVs_cons {ov0 : Override} {v : Val} {r : Vals}
    (h : SecAtVs pub ov0 (.cons v r)) : SecAt pub ov0 v ∧ SecAtVs pub ov0 r := by
  cases ov0
  · simp only [SecAtVs, SecVs] at h; exact h
  · simp only [SecAtVs, AllPubVs] at h; exact h
  · simp only [SecAtVs, SecVs] at h; exact h

theorem PO.ite' {ov0 : Override} {c1 c2 : Prop} [Decidable c1] [Decidable c2] (hc : c1 ↔ c2) {a1 b1 a2 b2 : PP}
    (ha : PO ov0 a1 a2) (hb : PO ov0 b1 b2) : PO ov0 (if c1 then a1 else b1) (if c2 then a2 else b2) := by
  by_cases h : c1
  · rw [if_pos h, if_pos (hc.1 h)]; exact ha
  · rw [if_neg h, if_neg (fun h2 => h (hc.2 h2))]; exact hb

theorem PO_setSafe {ov0 : Override} {p1 p2 : PP} (h : PO ov0 p1 p2) :
    PO ov0 (if p1.override ≠ .ovUnsafe then { p1 with buf := p1.buf.setMode .safeEsc } else p1)
           (if p2.override ≠ .ovUnsafe then { p2 with buf := p2.buf.setMode .safeEsc } else p2) :=
  PO.ite' (by rw [h.1.ov]) ⟨P_setMode h.1 .safeEsc (by decide), h.2⟩ h

theorem secAt_nil {ov : Override} : SecAt pub ov .nil := by cases ov <;> trivial

theorem PRel.handBack {p1 p2 : PP} (h : PRel p1 p2) {b1 b2 : Buffer} (hb : BRel b1 b2) : PRel (p1.handBack b1) (p2.handBack b2) :=
  ⟨by show BRel (b1.setMode p1.buf.mode) (b2.setMode p2.buf.mode); rw [h.mode2]; exact setMode_rel _ _ _ hb,
    by show (b1.setMode p1.buf.mode).mode ≠ _; rw [setMode_mode]; exact h.nr, h.ov, h.f, h.er, h.pa, h.we, h.wd, h.ro, h.ga⟩

/-- The override in force inside `defer p.startX().restore()`: for the printer's brackets it depends on the override
outside only. -/
def enterOv (start : PP → PP × PP.Restorer) (ov : Override) : Override := (start { override := ov }).1.override

theorem enterOv_safe (ov : Override) : enterOv PP.startSafeOverride ov = if ov = .no then .ovSafe else ov :=
  start_safeOverride_ov _

theorem enterOv_unsafe (ov : Override) : enterOv PP.startUnsafeOverride ov = if ov = .no then .ovUnsafe else ov :=
  start_unsafeOverride_ov _

/-- `PO` as a logic of the printer, indexed by the override in force: what is printed under a safe override must be
public throughout (`SecAt`). The two runs have oracles of their own. -/
def niLogic (pub : Nat → Prop) (he : EnvRel pub env1 env2) : LogicF Override env1 env2 where
  toFormats := .any
  val ov v := ValOk v ∧ SecAt pub ov v
  vals ov vs := ValsOk vs ∧ SecAtVs pub ov vs
  fields ov fs := FieldsOk fs ∧ SecAtFs pub ov fs
  script ov sc := ScriptOk sc ∧ SecAtS pub ov sc
  meths ov ms ret := (ov = .ovSafe → pub ret) ∧ (ov = .no → ms.safeMessager = true → pub ret)
  leaf ov id := ov = .ovSafe → pub id
  enter := enterOv
  val_nil := ⟨trivial, secAt_nil⟩
  val_safeW h := ⟨valOk_safeW h.1, by rw [enterOv_safe]; exact secAt_safeW h.2⟩
  val_unsafeW h := ⟨valOk_unsafeW h.1, by rw [enterOv_unsafe]; exact secAt_unsafeW h.2⟩
  val_declared h hf := ⟨h.1, by rw [enterOv_safe]; exact secAt_flagged h.2 hf⟩
  val_leaf h := ⟨secAt_leaf h.2, trivial⟩
  val_meth h := ⟨(msec_of_secAt h.2).2, ⟨h.1.1, (msec_of_secAt h.2).1⟩, h.1.2, secAt_under h.2⟩
  val_slice h := ⟨trivial, h.1, secAt_slice h.2⟩
  val_map h := ⟨trivial, ⟨h.1.1, (secAt_map h.2).1⟩, h.1.2, (secAt_map h.2).2⟩
  val_struct h := ⟨trivial, h.1, secAt_struct h.2⟩
  val_ptrTo h := ⟨h.1, secAt_ptrTo h.2⟩
  val_redactable {ov _ _} h := ⟨⟨⟨h.1, trivial⟩, trivial⟩, by cases ov <;> exact ⟨⟨trivial, trivial⟩, trivial⟩⟩
  val_typeName _ := ⟨trivial, fun _ => trivial⟩
  vals_cons h := ⟨⟨h.1.1, (secAtVs_cons h.2).1⟩, h.1.2, (secAtVs_cons h.2).2⟩
  fields_cons h := ⟨trivial, ⟨h.1.1, (secAtFs_cons h.2).1⟩, h.1.2, (secAtFs_cons h.2).2⟩
  meths_leaf h := h.1
  script_safeString h := ⟨trivial, h.1, secAtS_tail h.2 ⟨id, id⟩⟩
  script_unsafeString h := ⟨trivial, h.1, secAtS_tail h.2 ⟨id, id⟩⟩
  script_safeRune h := ⟨h.1, secAtS_tail h.2 ⟨id, id⟩⟩
  script_write h := ⟨trivial, h.1, secAtS_tail h.2 ⟨id, id⟩⟩
  script_unsafeLeaf h := ⟨fun ho => by subst ho; exact h.2.1, h.1, secAtS_tail h.2 ⟨And.right, id⟩⟩
  script_print {ov _ _} h := ⟨⟨h.1.1, by cases ov <;> exact h.2.1⟩, h.1.2, secAtS_tail h.2 ⟨And.right, And.right⟩⟩
  script_printf {ov _ _ _} h := ⟨trivial, ⟨h.1.1, by cases ov <;> exact h.2.1⟩, h.1.2, secAtS_tail h.2 ⟨And.right, And.right⟩⟩
  script_indep h := ⟨h.1, secAtS_tail h.2 ⟨id, id⟩⟩
  script_panic h := ⟨h.1, secAt_of_panic h.2⟩
  hook {ov _ _ ret} hh hms verb := ⟨he.hok _ hh _ _, by
    have hs := he.hsec _ hh ret verb
    cases ov
    · exact hs.1
    · exact hs.2 (hms.1 rfl)
    · exact hs.1⟩
  render _ := trivial
  R := PO
  T ov _ _ := PO ov
  TD ov _ _ := PO ov
  Pn _ _ := BRel
  lag := False
  hook_eq := he.hook
  f_eq h := h.1.f
  erroring_eq h := h.1.er
  panicking_eq h := h.1.pa
  wrap_eq h _ := ⟨h.1.we, h.1.wd⟩
  dispatch h _ := sameDispatch_of_eq h.1.ov _
  ovUnsafe_redactable h _ := by rw [h.1.ov]
  messager {ov _ _ _ _} h hms hc := by
    rw [enterOv_safe]
    cases ov
    · exact fun _ => hms.2 rfl hc.2
    · exact hms.1
    · exact absurd h.2 hc.1
  reordered_eq h := h.1.ro
  goodArgNum_eq h := h.1.ga
  refl h := h
  trans _ h := h
  pre _ h := h
  Pn_trans _ h := h
  Pn_of_T h := h.1.b
  w h _ := h.w _
  wb h _ := h.wb _
  wr r h := h.wr r
  setF g h := h.setF g
  setPanicking e h := h.setPanicking e
  setWrapped _ _ h _ := ⟨by prel_upd h.1, h.2⟩
  setWrappedErr _ h _ := ⟨by prel_upd h.1, h.2⟩
  setReordered _ h := ⟨by prel_upd h.1, h.2⟩
  setGood _ h := ⟨by prel_upd h.1, h.2⟩
  err_enter h := ⟨by prel_upd h.1, h.2⟩
  err_exit _ g := ⟨by prel_upd g.1, g.2⟩
  Starts start := StartOk start ∧ ∀ p, (start p).1.override = enterOv start p.override
  starts_safeOverride := ⟨startOk_safeOverride, fun p => by rw [enterOv_safe, start_safeOverride_ov]⟩
  starts_unsafe := ⟨startOk_unsafe, fun p => by unfold enterOv; rw [start_unsafe_ov, start_unsafe_ov]⟩
  starts_unsafeOverride _ := ⟨startOk_unsafeOverride, fun p => by rw [enterOv_unsafe, start_unsafeOverride_ov]⟩
  start_in hs h := ⟨hs.1.rel _ _ h.1, by rw [hs.2, h.2]⟩
  val_leave {ov _ _} hs h := ⟨h.1, hs.1.mono pub { override := ov } _ h.2⟩
  start_out {_ _ p _ _ _} hs h g := h.restore hs.1 (by rw [hs.2 p, h.2]; exact g)
  start_pn {_ _ p p' b b'} hs h hb := by
    rw [hs.1.rest1 p, hs.1.rest1 p']
    show BRel (b.setMode p.buf.mode) (b'.setMode p'.buf.mode)
    rw [h.1.mode2]; exact setMode_rel _ _ _ hb
  redactable h hv := by
    have := RR_preRedactable (pub := pub) h.1 h.2 _ hv.1
    simp only [bracket, RR] at this
    exact this
  nested_in h := ⟨⟨h.1.b, h.1.nr, h.1.ov, rfl, rfl, rfl, rfl, rfl, rfl, rfl⟩, h.2⟩
  nested_out h g := ⟨h.1.handBack g.1.b, h.2⟩
  nested_pn h hb := ⟨h.1.handBack hb, h.2⟩
  setSafe_in h := PO_setSafe h
  setSafe_out _ g := g
  setSafe_pn _ hb := hb

section
variable {he : EnvRel pub env1 env2} {ov : Override} {p p' : PP}

theorem niLeaves : (niLogic pub he).Leaves where
  leaf id verb hR hl := by
    have h := RR_leafWrite1 he hR.1 hR.2 id verb hl
    generalize leafWrite1 env1 _ id verb = r at h
    generalize leafWrite1 env2 _ id verb = r' at h
    cases r <;> cases r' <;> simp only [RR] at h <;> try (exact h.elim)
    · exact .ok h
    · obtain ⟨hb, rfl, hv, hs⟩ := h; exact .panic hb ⟨hv, hs⟩
    · exact .fuel
    · exact .unsupported
  unsafeLeaf {ov p p'} id hR hl := by
    have hr := he.render id [0x25, 0x73]
    cases h1 : env1.render id [0x25, 0x73] <;> cases h2 : env2.render id [0x25, 0x73] <;> rw [h1, h2] at hr
    · exact .inl ⟨rfl, rfl⟩
    · exact hr.elim
    · exact hr.elim
    · rename_i a b
      have := RR_unsafeWrite (pub := pub) hR.1 hR.2 a b hr.1 fun ho => hr.2 (hl ho)
      simp only [bracket, RR] at this
      exact .inr ⟨a, b, rfl, rfl, this⟩

theorem RR_of_rel {r r' : Res} (h : (niLogic pub he).RelR ov p p' r r') : RR pub ov r r' := by
  cases h with
  | ok h => exact h
  | panic hb hpl => exact ⟨hb, rfl, hpl⟩
  | fuel => trivial
  | unsupported => trivial
  | lagL hl => exact hl.elim

theorem RR_of_relD {r r' : Res} (h : (niLogic pub he).RelD ov p p' r r') : RR pub ov r r' :=
  RR_of_rel (h.relR id)

theorem SR_of_rel {o o' : SRes} (h : (niLogic pub he).RelS ov p p' o o') : SR pub ov o o' := by
  cases h with
  | ok h => exact h
  | raised h hpl => exact ⟨h.1, h.2, rfl, hpl⟩
  | abort h => exact RR_of_rel h
  | lagL hl => exact hl.elim

theorem RB_of_rel {a a' : Bool × Res} (h : (niLogic pub he).RelH ov p p' a a') : RB pub ov a a' :=
  ⟨(h.fst_eq id).symm, RR_of_rel h.snd⟩

end

/-- **Two runs of any function of the printer under related oracles end in related states**, at every fuel: the
fundamental lemma for `niLogic`. -/
theorem rspec_all (he : EnvRel pub env1 env2) : ∀ n, RSpec pub env1 env2 n := by
  intro n
  obtain ⟨A, B⟩ := LogicF.sim_all (niLogic pub he) niLeaves (fun _ h => h) n
  have L : ∀ {ov l}, ListOk l → SecAtL pub ov l → (niLogic pub he).list ov l := fun ha hs v hv => ⟨ha v hv, hs v hv⟩
  exact {
    printArg := fun ov p1 p2 v verb hp ho hv hs => RR_of_rel (A.printArg ov p1 p2 v verb ⟨hp, ho⟩ ⟨hv, hs⟩ trivial)
    printArgBody := fun ov p1 p2 v verb hp ho hv hs => RR_of_rel (A.printArgBody ov p1 p2 v verb ⟨hp, ho⟩ ⟨hv, hs⟩ trivial)
    badVerb := fun ov p1 p2 v verb via hp ho hv hs => RR_of_rel (A.badVerb ov p1 p2 v verb via ⟨hp, ho⟩ ⟨hv, hs⟩)
    handleMethods := fun ov p1 p2 v verb hp ho hv hs => RB_of_rel (A.handleMethods ov p1 p2 v verb ⟨hp, ho⟩ ⟨hv, hs⟩ trivial)
    methDispatch := fun ov p1 p2 v ms nr ret sc verb hp ho hv hsc hs hm =>
      RB_of_rel (A.methDispatch ov p1 p2 v ms nr ret sc verb ⟨hp, ho⟩ ⟨hv, hs⟩ hm.2 ⟨hsc, hm.1⟩)
    fmtString := fun ov p1 p2 v ret verb hp ho hv hs hr =>
      RR_of_rel (A.fmtString ov p1 p2 v ret verb ⟨hp, ho⟩ (fun h => ⟨hv, hs h⟩) hr)
    catchPanic := fun p01 p02 ov arg verb m nr out1 out2 h => by
      -- the report starts from the state the method left: any related pair the outcome is related from will do
      have w : PO ov { override := ov } { override := ov } := ⟨⟨brel_init, by show Buffer.init.mode ≠ .raw; decide, rfl, rfl, rfl, rfl, rfl, rfl, rfl, rfl⟩, rfl⟩
      have cp := fun p p' hR ho => RR_of_rel (A.catchPanic ov p p' p01 p02 arg verb m nr out1 out2 hR trivial ho)
      cases out1 <;> cases out2 <;> simp only [SR] at h <;> try (exact h.elim)
      · exact cp _ _ h (.ok h)
      · obtain ⟨hp, ho, rfl, hpl⟩ := h; exact cp _ _ ⟨hp, ho⟩ (.raised ⟨hp, ho⟩ hpl)
      · rename_i r1 r2
        refine cp _ _ w (.abort ?_)
        cases r1 <;> cases r2 <;> simp only [RR] at h <;> try (exact h.elim)
        · exact .ok h
        · obtain ⟨hb, rfl, hpl⟩ := h; exact .panic hb hpl
        · exact .fuel
        · exact .unsupported
    runScript := fun ov p1 p2 sc hp ho hsc hs => SR_of_rel (A.runScript ov p1 p2 sc ⟨hp, ho⟩ ⟨hsc, hs⟩)
    printValue := fun ov p1 p2 v verb d ro hp ho hv hs => RR_of_rel (A.printValue ov p1 p2 v verb d ro ⟨hp, ho⟩ ⟨hv, hs⟩ trivial)
    printSlot := fun ov p1 p2 v verb d i ro hp ho hv hs => RR_of_rel (A.printSlot ov p1 p2 v verb d i ro ⟨hp, ho⟩ ⟨hv, hs⟩ trivial)
    slotMethods := fun ov p1 p2 v verb hp ho hv hs => RB_of_rel (A.slotMethods ov p1 p2 v verb ⟨hp, ho⟩ ⟨hv, hs⟩ trivial)
    printFields := fun ov p1 p2 fs verb d ro f hp ho hv hs => RR_of_rel (A.printFields ov p1 p2 fs verb d ro f ⟨hp, ho⟩ ⟨hv, hs⟩ trivial)
    printElems := fun ov p1 p2 vs verb d i ro f hp ho hv hs => RR_of_rel (A.printElems ov p1 p2 vs verb d i ro f ⟨hp, ho⟩ ⟨hv, hs⟩ trivial)
    printPairs := fun ov p1 p2 ks vs verb d ik iv ro f hp ho hk hv hsk hsv =>
      RR_of_rel (A.printPairs ov p1 p2 ks vs verb d ik iv ro f ⟨hp, ho⟩ ⟨hk, hsk⟩ ⟨hv, hsv⟩ trivial)
    doPrint := fun ov p1 p2 args hp ho ha hs => RR_of_relD (A.doPrint ov p1 p2 args ⟨hp, ho⟩ (L ha hs))
    doPrintLoop := fun ov p1 p2 args k ps hp ho ha hs => RR_of_rel (A.doPrintLoop ov p1 p2 args k ps ⟨hp, ho⟩ (L ha hs))
    doPrintf := fun ov p1 p2 f args hp ho ha hs => RR_of_relD (B.doPrintf ov p1 p2 f args ⟨hp, ho⟩ trivial (L ha hs))
    fmtLoop := fun ov p1 p2 f args k ai hp ho ha hs => RR_of_rel (B.fmtLoop ov p1 p2 f args k ai ⟨hp, ho⟩ trivial (L ha hs))
    directiveTail := fun ov p1 p2 f args k ai hp ho ha hs => RR_of_rel (B.directiveTail ov p1 p2 f args k ai ⟨hp, ho⟩ trivial (L ha hs))
    finishPrintf := fun ov p1 p2 args k hp ho ha hs => RR_of_rel (B.finishPrintf ov p1 p2 args k ⟨hp, ho⟩ (L ha hs))
    extraLoop := fun ov p1 p2 args f hp ho ha hs => RR_of_rel (B.extraLoop ov p1 p2 args f ⟨hp, ho⟩ (L ha hs)) }

end Redact
