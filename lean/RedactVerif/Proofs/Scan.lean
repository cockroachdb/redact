import RedactVerif.Model.Escape
import RedactVerif.Model.Markers
/-
Token-level lemmas about the well-formedness scanner `scanFrom` and the
escape specification `escTok`.
-/
namespace Redact

theorem scanFrom_append (o : Bool) (a b : List Tok) :
    scanFrom o (a ++ b) = (scanFrom o a).bind (fun o' => scanFrom o' b) := by
  induction a generalizing o with
  | nil => simp [scanFrom]
  | cons t r ih =>
    cases t with
    | s => cases o <;> simp [scanFrom, ih]
    | e => cases o <;> simp [scanFrom, ih]
    | b x =>
      cases o
      · simp [scanFrom, ih]
      · simp only [List.cons_append, scanFrom]
        split <;> simp [ih]

theorem scan_append (a b : List Tok) :
    scan (a ++ b) = (scan a).bind (fun o' => scanFrom o' b) := scanFrom_append false a b

theorem scan_of_snoc_s {t : List Tok} (h : scan (t ++ [.s]) = some true) : scan t = some false := by
  rw [scan_append] at h
  cases hs : scan t with
  | none => simp [hs] at h
  | some o => cases o <;> simp_all [scanFrom]

theorem scan_of_snoc_e {t : List Tok} (h : scan (t ++ [.e]) = some false) : scan t = some true := by
  rw [scan_append] at h
  cases hs : scan t with
  | none => simp [hs] at h
  | some o => cases o <;> simp_all [scanFrom]

theorem eq_dropLast_append_of_getLast {t : List Tok} {x : Tok} (h : t.getLast? = some x) :
    t = t.dropLast ++ [x] := by
  obtain ⟨ys, rfl⟩ := List.getLast?_eq_some_iff.1 h
  simp

/-- Escaping the pending bytes of an open envelope keeps the envelope open and
the prefix well-formed and line-safe, whatever the bytes are. -/
theorem scan_escTok_open (out rest : List Tok) (h : scan out = some true) :
    scan (escTok true out rest) = some true := by
  induction rest generalizing out with
  | nil => simpa [escTok]
  | cons t r ih =>
    cases t with
    | s => simp only [escTok]; apply ih; rw [scan_append, h]; simp [scanFrom, LF]
    | e => simp only [escTok]; apply ih; rw [scan_append, h]; simp [scanFrom, LF]
    | b x =>
      simp only [escTok, Bool.true_and]
      by_cases hx : (x == LF) = true
      · simp only [hx, if_true]
        apply ih
        by_cases hl : out.getLast? = some .s
        · simp only [hl, if_true]
          have ho := eq_dropLast_append_of_getLast hl
          have : scan out.dropLast = some false := scan_of_snoc_s (by rw [← ho]; exact h)
          rw [scan_append, this]; simp [scanFrom]
        · simp only [hl, if_false]
          rw [scan_append, scan_append, h]; simp [scanFrom]
      · simp only [hx, if_false, Bool.false_eq_true]
        apply ih
        rw [scan_append, h]
        have : x ≠ LF := by simpa using hx
        simp [scanFrom, this]

theorem scan_escTok_closed (out rest : List Tok) (h : scan out = some false) :
    scan (escTok false out rest) = some false := by
  induction rest generalizing out with
  | nil => simpa [escTok]
  | cons t r ih =>
    cases t with
    | s => simp only [escTok]; apply ih; rw [scan_append, h]; simp [scanFrom]
    | e => simp only [escTok]; apply ih; rw [scan_append, h]; simp [scanFrom]
    | b x =>
      simp only [escTok, Bool.false_and, Bool.false_eq_true, if_false]
      apply ih; rw [scan_append, h]; simp [scanFrom]

/-- No marker token of the input survives safe-mode escaping. -/
theorem escTok_false_eq (out rest : List Tok) : escTok false out rest = out ++ escT rest := by
  induction rest generalizing out with
  | nil => simp [escTok, escT]
  | cons t r ih => cases t <;> simp [escTok, escT, ih]

theorem stripT_append (a c : List Tok) : stripT (a ++ c) = stripT a ++ stripT c := by
  induction a with
  | nil => simp [stripT]
  | cons t r ih => cases t <;> simp [stripT, ih]

end Redact
