import RedactVerif.Props.C10
import RedactVerif.Props.C01
import RedactVerif.Proofs.Utf8Valid
/-
What the buffer's output reads as with markers stripped, and with envelopes
deleted (C09's two equalities): lemmas. The development tracks buffers whose
bytes, trailing markers aside, end in a complete UTF-8 character (`RuneEnd`,
Proofs/Utf8Valid.lean) — so that the truncated-UTF-8 tail test never fires —
which is what payloads that are empty or end in a complete character produce.

The invariant `KInv` holds that and the two readings. How a reading changes under `SetMode`,
`Write` and `finalize` is proved once, for any `Reading`; the stripped reading, the reading
outside envelopes and the labelled reading of Lab.lean are instances.
-/
namespace Redact

theorem escTok_append (nl : Bool) (out x y : List Tok) : escTok nl out (x ++ y) = escTok nl (escTok nl out x) y := by
  induction x generalizing out with
  | nil => simp [escTok]
  | cons t r ih =>
    cases t with
    | s => simp [escTok, ih]
    | e => simp [escTok, ih]
    | b c =>
      simp only [List.cons_append, escTok]
      split <;> exact ih _

theorem escTok_plain (nl : Bool) (out : List Tok) (r : List Byte) (h : ∀ c ∈ r, ¬ (nl = true ∧ c = LF)) :
    escTok nl out (r.map .b) = out ++ r.map .b := by
  induction r generalizing out with
  | nil => simp [escTok]
  | cons c t ih =>
    have hc : (nl && c == LF) = false := by
      have := h c (by simp)
      cases nl <;> simp_all
    simp only [List.map_cons, escTok, hc, Bool.false_eq_true, if_false]
    rw [ih _ (fun c' hc' => h c' (by simp [hc']))]
    simp

theorem valid_no_LF {r : List Byte} (h : validRuneB r = true) (hne : r ≠ [LF]) : ∀ c ∈ r, c ≠ LF := by
  have big : ∀ c : Byte, 0x80 ≤ c → c ≠ LF := fun c hc hh => by subst hh; revert hc; decide
  have lead : ∀ a : Byte, a ≥ 0xC2 → a ≠ LF := fun a ha => big a (Nat.le_trans (by decide) ha)
  rcases valid_cases h with ⟨a, rfl⟩ | ⟨a, b, rfl⟩ | ⟨a, b, c, rfl⟩ | ⟨a, b, c, d, rfl⟩
  · simpa using fun e => hne (by rw [e])
  · obtain ⟨ha, hb, _, _⟩ := valid2 h
    simp [lead a ha, big b hb]
  · obtain ⟨ha, hb, _, hc, _, _⟩ := valid3 h
    simp [lead a ha, big b hb, big c hc]
  · obtain ⟨ha, hb, _, hc, _, hd, _, _⟩ := valid4 h
    simp [lead a ha, big b hb, big c hc, big d hd]

theorem valid_q : validRuneB [0x3F] = true := by decide
theorem valid_LF : validRuneB [LF] = true := by decide

theorem runeEnd_escTok (nl : Bool) (out x : List Tok) (ho : RuneEnd out) (hx : PendRune x) :
    RuneEnd (escTok nl out x) := by
  rcases hx with rfl | ⟨y, h | h | ⟨r, h, hr⟩⟩
  · simpa [escTok] using ho
  all_goals subst h; rw [escTok_append]
  · exact runeEnd_snoc_rune _ valid_q
  · exact runeEnd_snoc_rune _ valid_q
  · by_cases hl : r = [LF] ∧ nl = true
    · obtain ⟨rfl, rfl⟩ := hl
      simp only [List.map_cons, List.map_nil, escTok, Bool.true_and, beq_self_eq_true, if_true]
      have : ∀ (l : List Tok), l ++ [Tok.b LF, Tok.s] = (l ++ [LF].map .b) ++ [.s] := fun l => by simp
      rw [this]
      exact runeEnd_snoc_marker (runeEnd_snoc_rune _ valid_LF) rfl
    · rw [escTok_plain]
      · exact runeEnd_snoc_rune _ hr
      · intro c hc ⟨hnl, hcl⟩
        by_cases hr1 : r = [LF]
        · exact hl ⟨hr1, hnl⟩
        · exact valid_no_LF hr hr1 c hc hcl

def lfT : List Tok → List Tok
  | [] => []
  | .b x :: r => if x == LF then .b LF :: lfT r else lfT r
  | _ :: r => lfT r

theorem lfT_append (a b : List Tok) : lfT (a ++ b) = lfT a ++ lfT b := by
  induction a with
  | nil => rfl
  | cons x r ih =>
    cases x with
    | s => simpa [lfT] using ih
    | e => simpa [lfT] using ih
    | b y => simp only [List.cons_append, lfT]; split <;> simp [ih]

theorem safeText_append (a b : List Ev) : safeText (a ++ b) = safeText a ++ safeText b := by
  induction a with
  | nil => rfl
  | cons x r ih => cases x <;> simp [safeText, ih]

theorem safeText_evT_snoc_open (t : List Tok) (x : Byte) (h : scan t = some true) :
    safeText (evT (t ++ [.b x])) = safeText (evT t) := by
  rw [evT_snoc_open _ _ h]
  unfold gEv
  split
  · simp [safeText_append, safeText]
  · rfl

theorem safeText_evT_snoc_s (t : List Tok) : safeText (evT (t ++ [.s])) = safeText (evT t) := by
  rw [evT_snoc_s, safeText_append]; simp [safeText]
theorem safeText_evT_snoc_e (t : List Tok) : safeText (evT (t ++ [.e])) = safeText (evT t) := by
  rw [evT_snoc_e, safeText_append]; simp [safeText]

theorem safeText_evT_blind (t : List Tok) (m : Tok) (hm : m.isMarker = true) :
    safeText (evT (t ++ [m])) = safeText (evT t) := by
  cases m with
  | s => exact safeText_evT_snoc_s t
  | e => exact safeText_evT_snoc_e t
  | b _ => cases hm

theorem safeText_lf_step {out : List Tok} (h : scan out = some true) :
    safeText (evT ((if out.getLast? = some .s then out.dropLast else out ++ [.e]) ++ [.b LF, .s])) =
      safeText (evT out) ++ [.b LF] := by
  rw [← blind_cancel (f := fun t => safeText (evT t)) safeText_evT_blind (x := .s) (y := .e) rfl rfl out, List.append_cons _ (Tok.b LF) [.s],
    safeText_evT_snoc_s, evT_snoc_content, closed_of_scan_false (scan_close h), safeText_append]
  rfl

theorem safeText_escTok_open (out rest : List Tok) (h : scan out = some true) :
    safeText (evT (escTok true out rest)) = safeText (evT out) ++ lfT rest := by
  induction rest generalizing out with
  | nil => simp [escTok, lfT]
  | cons t r ih =>
    cases t with
    | s | e =>
      simp only [escTok, lfT]
      rw [ih _ (scan_snoc_content h (by decide)), safeText_evT_snoc_open _ _ h]
    | b x =>
      by_cases hx : x = LF
      · subst hx
        simp only [escTok, lfT, Bool.true_and, beq_self_eq_true, if_true]
        rw [ih _ (scan_lf_step h), safeText_lf_step h]
        simp
      · have hb : (x == LF) = false := by simpa using hx
        simp only [escTok, lfT, hb, Bool.and_false, Bool.false_eq_true, if_false]
        rw [ih _ (scan_snoc_content h hx), safeText_evT_snoc_open _ _ h]

theorem safeText_outEv_plain (r : List Tok) (h : ∀ x ∈ r, x.isMarker = false) : safeText (outEv r) = r := by
  induction r with
  | nil => rfl
  | cons x r ih =>
    cases x with
    | s => have := h .s (by simp); simp [Tok.isMarker] at this
    | e => have := h .e (by simp); simp [Tok.isMarker] at this
    | b y => simp only [outEv, safeText]; rw [ih (fun x hx => h x (by simp [hx]))]

/-- Safe text appended to a closed prefix is visible as written (markers escaped). -/
theorem safeText_closed_escT (t x : List Tok) (h : scan t = some false) :
    safeText (evT (t ++ escT x)) = safeText (evT t) ++ escT x := by
  unfold evT
  rw [abs_append, closed_of_scan_false h, abs_closed_plain _ (escT_no_marker x), safeText_append,
    safeText_outEv_plain _ (escT_no_marker x)]

/-- A finished redactable appended to a closed prefix contributes its own outside text. -/
theorem safeText_closed_raw (t s : List Tok) (h : scan t = some false) (hs : scan s = some false) :
    safeText (evT (t ++ s)) = safeText (evT t) ++ dropEnvT s := by
  unfold evT
  rw [abs_append, closed_of_scan_false h, safeText_append]
  unfold dropEnvT
  rw [(dropEnv_eq_safeText s).1 (scanWF_of_scan _ _ _ hs)]

def pendPlainT (m : Mode) (s : List Byte) : List Tok :=
  if m = .raw then stripT (tokenize s) else escT (tokenize s)

def pendSafeT (m : Mode) (s : List Byte) : List Tok :=
  if m = .raw then dropEnvT (tokenize s) else if m = .unsafeEsc then lfT (tokenize s) else escT (tokenize s)

/-- The buffer holds `acc` (as read with markers stripped) and `dacc` (as read outside
envelopes), and its bytes end, markers aside, in a complete character. -/
structure KInv (b : Buffer) (acc dacc : List Tok) : Prop where
  inv : Inv b
  cl : RuneEnd (tokenize b.pre)
  pr : b.mode = .raw → RuneEnd (tokenize b.suf)
  pe : b.mode ≠ .raw → EndsRune b.suf
  plain : stripT (tokenize b.pre) ++ pendPlainT b.mode b.suf = acc
  safe : safeText (evT (tokenize b.pre)) ++ pendSafeT b.mode b.suf = dacc

/-- Under the invariant the tail test never fires. -/
theorem KInv.tail {b : Buffer} {acc dacc : List Tok} (k : KInv b acc dacc) : tailBad b.buf = false := by
  by_cases hm : b.mode = .raw
  · apply tailBad_of_runeEnd
    rw [tokenize_buf b k.inv]
    exact runeEnd_append k.cl (k.pr hm)
  · rcases k.pe hm with hs | ⟨q, r, hs, hr⟩
    · apply tailBad_of_runeEnd
      rw [tokenize_buf b k.inv, hs]
      simpa using k.cl
    · rw [buf_eq_pre_suf b, hs, ← List.append_assoc]
      exact tailBad_valid _ _ hr

/-- The tokens `escapeToEnd` leaves under the invariant: no `?` is added. -/
theorem KInv.tokenize_escapeToEnd {b : Buffer} {acc dacc : List Tok} (k : KInv b acc dacc) (nl : Bool) :
    tokenize (b.escapeToEnd nl).buf = escTok nl (tokenize b.pre) (tokenize b.suf) := by
  rw [Redact.tokenize_escapeToEnd b k.inv, k.tail]; rfl

theorem KInv.tokenize_suf_append {b : Buffer} {acc dacc : List Tok} (k : KInv b acc dacc) (p : List Byte) :
    tokenize (b.suf ++ p) = tokenize b.suf ++ tokenize p := by
  apply tokenize_append_of_not_straddles
  by_cases hm : b.mode = .raw
  · exact not_straddles_of_goodT _ _ (k.inv.raw hm).1
  · exact straddles_of_endsRune _ _ (k.pe hm)

/-! ### Readings

The stripped reading, the reading outside envelopes and the labelled reading of Lab.lean are
carried through the buffer's operations by one argument. A reading has a value `R` on validated
tokens and a value `P m` on tokens pending in mode `m`; the fields below are what the operations
need of them. -/

structure Reading (β : Type) where
  R : List Tok → List β
  P : Mode → List Tok → List β
  blind : ∀ t m, m.isMarker = true → R (t ++ [m]) = R t
  /-- The three ways pending tokens are validated: escaped inside an open envelope, escaped
  outside, taken as they are. -/
  esc_unsafe : ∀ out rest, scan out = some true → R (escTok true out rest) = R out ++ P .unsafeEsc rest
  esc_safe : ∀ out rest, scan out = some false → R (out ++ escT rest) = R out ++ P .safeEsc rest
  raw : ∀ out s, scan out = some false → scan s = some false → R (out ++ s) = R out ++ P .raw s
  P_nil : ∀ m, P m [] = []
  P_append : ∀ m a c, (m = .raw → scan a = some false) → P m (a ++ c) = P m a ++ P m c

namespace Reading
variable {β : Type} (ρ : Reading β) {b : Buffer} {acc dacc : List Tok}

def rd (b : Buffer) : List β := ρ.R (tokenize b.pre) ++ ρ.P b.mode (tokenize b.suf)

theorem rd_of_full (hf : b.validUntil = b.buf.length) : ρ.rd b = ρ.R (tokenize b.buf) := by
  simp [rd, pre_of_full hf, suf_of_full hf, ρ.P_nil]

/-- `escapeToEnd` validates the pending bytes as they were read. -/
theorem R_escapeToEnd (k : KInv b acc dacc) (hm : b.mode ≠ .raw) :
    ρ.R (tokenize (b.escapeToEnd (decide (b.mode = .unsafeEsc))).buf) = ρ.rd b := by
  have hsc : scan (tokenize b.pre) = some b.markerOpen := k.inv.sc
  rw [k.tokenize_escapeToEnd, rd]
  rcases k.inv.esc_cases with ⟨hu, ho⟩ | ⟨hu, ho, hs⟩ | ⟨hu, ho⟩ <;> rw [ho] at hsc
  · simpa [hu] using ρ.esc_unsafe _ _ hsc
  · simp [hu, hs, escTok, ρ.P_nil]
  · have hs : b.mode = .safeEsc := by cases h : b.mode <;> simp_all
    simpa [hs, escTok_false_eq] using ρ.esc_safe _ _ hsc

/-- Leaving raw mode: the pending fragments are read as they are. -/
theorem R_raw (k : KInv b acc dacc) (hm : b.mode = .raw) : ρ.R (tokenize b.buf) = ρ.rd b := by
  have hsc : scan (tokenize b.pre) = some b.markerOpen := k.inv.sc
  rw [(full_of_raw b k.inv hm).2] at hsc
  rw [tokenize_buf b k.inv, rd, hm]
  exact ρ.raw _ _ hsc (k.inv.raw hm).2

theorem R_finalize (k : KInv b acc dacc) : ρ.R (tokenize b.finalize.buf) = ρ.rd b := by
  by_cases hm : b.mode = .raw
  · rw [finalize_raw b hm (full_of_raw b k.inv hm).2]
    exact ρ.R_raw k hm
  · cases ho : b.markerOpen with
    | false => rw [finalize_esc_closed b hm ho]; exact ρ.R_escapeToEnd k hm
    | true =>
      have hf := (escapeToEnd_full b k.inv).1.sc
      rw [ho] at hf
      rw [finalize_esc_open b hm ho]
      exact (blind_endRedactable ρ.blind _ hf).trans (ρ.R_escapeToEnd k hm)

theorem rd_setMode (k : KInv b acc dacc) (m : Mode) : ρ.rd (b.setMode m) = ρ.rd b := by
  by_cases hsame : b.mode = m
  · rw [setMode_same b m hsame]
  · have ⟨e1, v1, _⟩ := setMode_buf b m k.inv hsame
    rw [ρ.rd_of_full v1, e1, ρ.R_finalize k]

theorem rd_startWrite (k : KInv b acc dacc) : ρ.rd b.startWrite = ρ.rd b := by
  by_cases hc : b.mode = .unsafeEsc ∧ b.markerOpen = false
  · rw [startWrite_open b hc, ρ.rd_of_full rfl, ρ.rd_of_full (full_of_suf_nil k.inv.le (k.inv.closedEmpty hc.1 hc.2))]
    exact blind_startRedactable ρ.blind b
  · rw [startWrite_noop b hc]

theorem rd_append (k : KInv b acc dacc) (p : List Byte) : ρ.rd (b.append p) = ρ.rd b ++ ρ.P b.mode (tokenize p) := by
  show ρ.R (tokenize (b.append p).pre) ++ ρ.P b.mode (tokenize (b.append p).suf) = _
  rw [pre_append b p k.inv.le, suf_append b p k.inv.le, k.tokenize_suf_append,
    ρ.P_append _ _ _ (fun hm => (k.inv.raw hm).2), ← List.append_assoc]
  rfl

end Reading

theorem stripT_blind (t : List Tok) (m : Tok) (hm : m.isMarker = true) : stripT (t ++ [m]) = stripT t := by
  cases m <;> simp_all [stripT_append, stripT, Tok.isMarker]

theorem escT_append (a b : List Tok) : escT (a ++ b) = escT a ++ escT b := by
  induction a with
  | nil => rfl
  | cons x r ih => cases x <;> simp [escT, ih]

/-- Deleting envelopes goes through a point outside any envelope. -/
theorem dropEnvT_append_closed (a c : List Tok) (ha : scan a = some false) :
    dropEnvT (a ++ c) = dropEnvT a ++ dropEnvT c := by
  refine (scanWF_induction (C := fun a => dropEnvAux none (a ++ c) = dropEnvAux none a ++ dropEnvAux none c)
    (O := fun a => ∀ acc, dropEnvAux (some acc) (a ++ c) = dropEnvAux (some acc) a ++ dropEnvAux none c)
    rfl (fun r h => h []) ?_ ?_ (fun x r h acc => h _) a).1 (scanWF_of_scan _ _ _ ha) <;> intros <;> simp [dropEnvAux, *]

/-- The stripped reading (`KInv.plain` is `stripRd.rd b = acc`). -/
def stripRd : Reading Tok where
  R := stripT
  P m t := if m = .raw then stripT t else escT t
  blind := stripT_blind
  esc_unsafe out rest _ := stripT_escTok true out rest
  esc_safe out rest _ := by rw [← escTok_false_eq]; exact stripT_escTok false out rest
  raw out s _ _ := stripT_append out s
  P_nil m := by cases m <;> rfl
  P_append m a c _ := by
    cases m
    · exact escT_append a c
    · exact escT_append a c
    · exact stripT_append a c

/-- The reading outside envelopes (`KInv.safe` is `safeRd.rd b = dacc`). -/
def safeRd : Reading Tok where
  R t := safeText (evT t)
  P m t := if m = .raw then dropEnvT t else if m = .unsafeEsc then lfT t else escT t
  blind := safeText_evT_blind
  esc_unsafe := safeText_escTok_open
  esc_safe := safeText_closed_escT
  raw := safeText_closed_raw
  P_nil m := by cases m <;> rfl
  P_append m a c h := by
    cases m
    · exact lfT_append a c
    · exact escT_append a c
    · exact dropEnvT_append_closed a c (h rfl)

theorem runeEnd_blind (t : List Tok) (m : Tok) (hm : m.isMarker = true) : RuneEnd (t ++ [m]) = RuneEnd t :=
  propext ⟨fun h => by simpa using runeEnd_dropLast h (x := m) (by simp) hm, fun h => runeEnd_snoc_marker h hm⟩

theorem runeEnd_finalize {b : Buffer} {acc dacc : List Tok} (k : KInv b acc dacc) : RuneEnd (tokenize b.finalize.buf) := by
  by_cases hm : b.mode = .raw
  · rw [finalize_raw b hm (full_of_raw b k.inv hm).2]
    show RuneEnd (tokenize b.buf)
    rw [tokenize_buf b k.inv]
    exact runeEnd_append k.cl (k.pr hm)
  · have he : RuneEnd (tokenize (b.escapeToEnd (decide (b.mode = .unsafeEsc))).buf) := by
      rw [k.tokenize_escapeToEnd]
      exact runeEnd_escTok _ _ _ k.cl (pendRune_of_bytes _ (k.pe hm))
    cases ho : b.markerOpen with
    | false => rw [finalize_esc_closed b hm ho]; exact he
    | true =>
      have hf := (escapeToEnd_full b k.inv).1.sc
      rw [ho] at hf
      rw [finalize_esc_open b hm ho]
      exact (blind_endRedactable runeEnd_blind _ hf).mpr he

theorem finalize_K (b : Buffer) (acc dacc : List Tok) (k : KInv b acc dacc) :
    RuneEnd (tokenize b.finalize.buf) ∧ stripT (tokenize b.finalize.buf) = acc ∧
      safeText (evT (tokenize b.finalize.buf)) = dacc :=
  ⟨runeEnd_finalize k, (stripRd.R_finalize k).trans k.plain, (safeRd.R_finalize k).trans k.safe⟩

theorem kinv_of_full {b : Buffer} {acc dacc : List Tok} (hi : Inv b) (hv : b.validUntil = b.buf.length)
    (hc : RuneEnd (tokenize b.buf)) (hp : stripRd.rd b = acc) (hs : safeRd.rd b = dacc) : KInv b acc dacc :=
  ⟨hi, by rw [pre_of_full hv]; exact hc, fun _ => by rw [suf_of_full hv]; exact runeEnd_nil,
    fun _ => Or.inl (suf_of_full hv), hp, hs⟩

theorem setMode_K (b : Buffer) (m : Mode) (acc dacc : List Tok) (k : KInv b acc dacc) :
    KInv (b.setMode m) acc dacc := by
  by_cases hsame : b.mode = m
  · rw [setMode_same b m hsame]; exact k
  · have ⟨e1, v1, _⟩ := setMode_buf b m k.inv hsame
    exact kinv_of_full (inv_setMode b m k.inv) v1 (by rw [e1]; exact runeEnd_finalize k)
      ((stripRd.rd_setMode k m).trans k.plain) ((safeRd.rd_setMode k m).trans k.safe)

theorem startWrite_K (b : Buffer) (acc dacc : List Tok) (k : KInv b acc dacc) : KInv b.startWrite acc dacc := by
  by_cases hc : b.mode = .unsafeEsc ∧ b.markerOpen = false
  · have hcl : RuneEnd (tokenize b.buf) := by
      rw [← pre_of_full (full_of_suf_nil k.inv.le (k.inv.closedEmpty hc.1 hc.2))]; exact k.cl
    refine kinv_of_full (inv_startWrite b k.inv).1 ?_ ?_ ((stripRd.rd_startWrite k).trans k.plain)
      ((safeRd.rd_startWrite k).trans k.safe) <;> rw [startWrite_open b hc]
    exact (blind_startRedactable runeEnd_blind b).mpr hcl
  · rw [startWrite_noop b hc]; exact k

theorem append_K (b : Buffer) (p : List Byte) (acc dacc : List Tok) (k : KInv b acc dacc)
    (hc : ¬ (b.mode = .unsafeEsc ∧ b.markerOpen = false))
    (hr : b.mode = .raw → Obtainable p ∧ RuneEnd (tokenize p))
    (he : b.mode ≠ .raw → EndsRune p) :
    KInv (b.append p) (acc ++ pendPlainT b.mode p) (dacc ++ pendSafeT b.mode p) := by
  refine ⟨inv_append b p k.inv hc (fun h => (hr h).1), by rw [pre_append b p k.inv.le]; exact k.cl, ?_, ?_, ?_, ?_⟩
  · intro h; rw [suf_append b p k.inv.le, k.tokenize_suf_append]; exact runeEnd_append (k.pr h) (hr h).2
  · intro h; rw [suf_append b p k.inv.le]; exact endsRune_append (k.pe h) (he h)
  · rw [← k.plain]; exact stripRd.rd_append k p
  · rw [← k.safe]; exact safeRd.rd_append k p

theorem write_K (b : Buffer) (p : List Byte) (acc dacc : List Tok) (k : KInv b acc dacc)
    (hr : b.mode = .raw → Obtainable p ∧ RuneEnd (tokenize p))
    (he : b.mode ≠ .raw → EndsRune p) :
    KInv (b.write p) (acc ++ pendPlainT b.mode p) (dacc ++ pendSafeT b.mode p) := by
  have ⟨_, m1, hc, _⟩ := inv_startWrite b k.inv
  have := append_K b.startWrite p acc dacc (startWrite_K b acc dacc k) hc (fun h => hr (m1 ▸ h)) (fun h => he (m1 ▸ h))
  rw [m1] at this
  exact this

theorem Reading.rd_write {β : Type} (ρ : Reading β) {b : Buffer} {acc dacc : List Tok} (k : KInv b acc dacc)
    (p : List Byte) : ρ.rd (b.write p) = ρ.rd b ++ ρ.P b.mode (tokenize p) := by
  rw [Buffer.write, ρ.rd_append (startWrite_K b acc dacc k), ρ.rd_startWrite k, startWrite_mode]

end Redact
