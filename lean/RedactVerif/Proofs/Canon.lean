import RedactVerif.Model.Markers
import RedactVerif.Proofs.Tokens
/-
Canonical token lists: the token readings of byte strings. `untok ∘ tokenize = id` holds for every byte string
(`untok_tokenize`); the converse `tokenize (untok t) = t` holds exactly when no three consecutive byte tokens spell
a marker. Every `tokenize l` is canonical, and `redactT` keeps token lists canonical — which is what lets the
token-level theorems of Props/C07.lean compose at the level of byte strings (`Redact(Redact(s))`), where the
functions of the library live. (`stripT` does not keep them canonical: that is known finding D4.)
-/
namespace Redact

/-- Three byte tokens at the head that spell a marker. -/
def badAt : List Tok → Bool
  | .b x :: .b y :: .b z :: _ => x == 0xE2 && y == 0x80 && (z == 0xB9 || z == 0xBA)
  | _ => false

def Canon : List Tok → Bool
  | [] => true
  | t :: r => !badAt (t :: r) && Canon r

@[simp] theorem badAt_s (r : List Tok) : badAt (.s :: r) = false := rfl
@[simp] theorem badAt_e (r : List Tok) : badAt (.e :: r) = false := rfl
@[simp] theorem badAt_bs (x : Byte) (r : List Tok) : badAt (.b x :: .s :: r) = false := rfl
@[simp] theorem badAt_be (x : Byte) (r : List Tok) : badAt (.b x :: .e :: r) = false := rfl
@[simp] theorem badAt_bbs (x y : Byte) (r : List Tok) : badAt (.b x :: .b y :: .s :: r) = false := rfl
@[simp] theorem badAt_bbe (x y : Byte) (r : List Tok) : badAt (.b x :: .b y :: .e :: r) = false := rfl
@[simp] theorem badAt_b1 (x : Byte) : badAt [.b x] = false := rfl
@[simp] theorem badAt_b2 (x y : Byte) : badAt [.b x, .b y] = false := rfl
@[simp] theorem badAt_nil : badAt [] = false := rfl
@[simp] theorem badAt_bbb (x y z : Byte) (r : List Tok) :
    badAt (.b x :: .b y :: .b z :: r) = (x == 0xE2 && y == 0x80 && (z == 0xB9 || z == 0xBA)) := rfl

@[simp] theorem Canon_nil : Canon [] = true := rfl
@[simp] theorem Canon_s (r : List Tok) : Canon (.s :: r) = Canon r := by simp [Canon]
@[simp] theorem Canon_e (r : List Tok) : Canon (.e :: r) = Canon r := by simp [Canon]

theorem Canon_tail {t : Tok} {r : List Tok} (h : Canon (t :: r) = true) : Canon r = true := by
  simp only [Canon, Bool.and_eq_true] at h; exact h.2

theorem untok_cons_ne {r : List Tok} {y : Byte} {l : List Byte} (h : untok r = y :: l) (hy : y ≠ 0xE2) :
    ∃ r1, r = .b y :: r1 ∧ untok r1 = l := by
  cases r with
  | nil => cases h
  | cons t r1 =>
    cases t with
    | s => simp only [untok_cons, Tok.bytes, startB, List.cons_append, List.cons.injEq] at h; exact absurd h.1.symm hy
    | e => simp only [untok_cons, Tok.bytes, endB, List.cons_append, List.cons.injEq] at h; exact absurd h.1.symm hy
    | b w =>
      simp only [untok_cons, Tok.bytes, List.cons_append, List.nil_append, List.cons.injEq] at h
      exact ⟨r1, by rw [h.1], h.2⟩

theorem tokenize_untok_of_canon (t : List Tok) (h : Canon t = true) : tokenize (untok t) = t := by
  induction t with
  | nil => rfl
  | cons tok r ih =>
    have hr := ih (Canon_tail h)
    cases tok with
    | s => simp only [untok_cons, Tok.bytes, startB, List.cons_append, List.nil_append]; rw [tokenize.eq_1, hr]
    | e => simp only [untok_cons, Tok.bytes, endB, List.cons_append, List.nil_append]; rw [tokenize.eq_2, hr]
    | b x =>
      simp only [untok_cons, Tok.bytes, List.cons_append, List.nil_append]
      have hb : badAt (.b x :: r) = false := by
        simp only [Canon, Bool.and_eq_true, Bool.not_eq_true'] at h; exact h.1
      -- were `x` followed by the rest of a marker, the next two tokens would be those bytes: `badAt`
      have key : ∀ z r', (z = 0xB9 ∨ z = 0xBA) → x = 0xE2 → untok r = 0x80 :: z :: r' → False := by
        intro z r' hz hx hu
        obtain ⟨r1, rfl, h1⟩ := untok_cons_ne hu (by decide)
        obtain ⟨r2, rfl, _⟩ := untok_cons_ne h1 (by rcases hz with rfl | rfl <;> decide)
        subst hx
        rcases hz with rfl | rfl <;> simp at hb
      rw [tokenize.eq_3 x (untok r) (fun r' hx hu => key 0xB9 r' (Or.inl rfl) hx hu)
        (fun r' hx hu => key 0xBA r' (Or.inr rfl) hx hu), hr]

theorem badAt_eq_true {t : List Tok} (h : badAt t = true) :
    ∃ z r, t = .b 0xE2 :: .b 0x80 :: .b z :: r ∧ (z = 0xB9 ∨ z = 0xBA) := by
  unfold badAt at h
  split at h
  · simp only [Bool.and_eq_true, Bool.or_eq_true, beq_iff_eq] at h
    obtain ⟨⟨rfl, rfl⟩, hz⟩ := h
    exact ⟨_, _, rfl, hz⟩
  · cases h

theorem canon_tokenize (l : List Byte) : Canon (tokenize l) = true := by
  fun_induction tokenize l with
  | case1 r ih => simpa using ih
  | case2 r ih => simpa using ih
  | case3 x r h1 h2 ih =>
    simp only [Canon, Bool.and_eq_true, Bool.not_eq_true', ih, and_true]
    -- a marker spelt by `x` and the next two tokens would be spelt by `x` and the next two bytes
    apply Bool.eq_false_iff.2
    intro hb
    obtain ⟨z, r2, ht, hz⟩ := badAt_eq_true hb
    simp only [List.cons.injEq, Tok.b.injEq] at ht
    have hu : r = 0x80 :: z :: untok r2 := by
      have := untok_tokenize r
      rw [ht.2] at this
      simpa [Tok.bytes] using this.symm
    rcases hz with rfl | rfl
    · exact h1 _ ht.1 hu
    · exact h2 _ ht.1 hu
  | case4 => rfl

/-- `badAt` looks at three tokens only. -/
theorem badAt_append_marker (a b : List Tok) (m : Tok) (hm : m.isMarker = true) (t : Tok) :
    badAt (t :: (a ++ m :: b)) = badAt (t :: a) := by
  cases m with
  | b _ => simp [Tok.isMarker] at hm
  | s | e =>
    cases t <;> try rfl
    cases a with
    | nil => rfl
    | cons t1 a1 =>
      cases t1 <;> try rfl
      cases a1 with
      | nil => rfl
      | cons t2 a2 => cases t2 <;> rfl

/-- A marker token separates: no window of three byte tokens spans it. -/
theorem Canon_append_marker (a b : List Tok) (m : Tok) (hm : m.isMarker = true) :
    Canon (a ++ m :: b) = (Canon a && Canon b) := by
  induction a with
  | nil => cases m <;> simp_all [Tok.isMarker]
  | cons t a ih =>
    simp only [List.cons_append, Canon, badAt_append_marker a b m hm t, ih, Bool.and_assoc]

theorem redactAux_some_head (acc r : List Tok) : ∃ R, redactAux (some acc) r = .s :: R := by
  induction r generalizing acc with
  | nil => exact ⟨_, rfl⟩
  | cons t r ih =>
    cases t with
    | s => exact ⟨_, rfl⟩
    | e => exact ⟨_, rfl⟩
    | b x => rw [redactAux]; exact ih _

theorem badAt_redact (x : Byte) (r : List Tok) : badAt (.b x :: redactAux none r) = badAt (.b x :: r) := by
  cases r with
  | nil => rfl
  | cons t1 r1 =>
    cases t1 with
    | s =>
      obtain ⟨R, hR⟩ := redactAux_some_head [] r1
      rw [redactAux, hR]; rfl
    | e => rfl
    | b y =>
      rw [redactAux]
      cases r1 with
      | nil => rfl
      | cons t2 r2 =>
        cases t2 with
        | s =>
          obtain ⟨R, hR⟩ := redactAux_some_head [] r2
          rw [redactAux, hR]; rfl
        | e => rfl
        | b z => rfl
      all_goals (intro h; cases h)
      all_goals (intro h; cases h)

def allB : List Tok → Bool
  | [] => true
  | .b _ :: r => allB r
  | _ :: _ => false

theorem canon_redactAux (o : Option (List Tok)) (t : List Tok) :
    (match o with
      | none => Canon t = true
      | some acc => Canon (acc.reverse ++ t) = true) → Canon (redactAux o t) = true := by
  fun_induction redactAux o t with
  | case1 => intro _; rfl
  | case2 acc => intro h; simpa using h
  | case3 r ih => intro h; exact ih (by simpa using h)
  | case4 t r hne ih =>
    intro h
    cases t with
    | s => exact absurd rfl hne
    | e => simp only [Canon_e] at h ⊢; exact ih h
    | b x =>
      simp only [Canon, Bool.and_eq_true, Bool.not_eq_true'] at h ⊢
      exact ⟨by rw [badAt_redact]; exact h.1, ih h.2⟩
  | case5 acc x r ih =>
    intro h
    apply ih
    simpa using h
  | case6 acc r ih =>
    intro h
    simp only at h
    rw [Canon_append_marker _ _ .e rfl, Bool.and_eq_true] at h
    simp only [Canon_s]
    have : Canon (crossT ++ .e :: redactAux none r) = (Canon crossT && Canon (redactAux none r)) :=
      Canon_append_marker crossT _ .e rfl
    rw [this, ih h.2]
    rfl
  | case7 acc r ih =>
    intro h
    simp only at h
    rw [Canon_append_marker _ _ .s rfl, Bool.and_eq_true] at h
    obtain ⟨R, hR⟩ := redactAux_some_head [] r
    simp only [Canon_s]
    have ih' := ih (by simpa using h.2)
    rw [hR] at ih' ⊢
    rw [Canon_append_marker _ _ .s rfl, h.1]
    simpa using ih'

theorem canon_redactT (t : List Tok) (h : Canon t = true) : Canon (redactT t) = true :=
  canon_redactAux none t h

theorem tokenize_redact (l : List Byte) : tokenize (redact l) = redactT (tokenize l) :=
  tokenize_untok_of_canon _ (canon_redactT _ (canon_tokenize l))

end Redact
