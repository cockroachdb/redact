import RedactVerif.Proofs.Sim
/-
The `erroring` flag between operands. `badVerb` sets it while it re-prints the operand of a bad verb (so that method
dispatch is skipped there) and clears it before returning; `handleMethods` declines while it is set. Here: every
function of the printer entered with `erroring = false` returns — when it returns — with `erroring = false`, for every
operand, verb and format: so every operand of a call, not only the first, meets method dispatch (the error hook, `%w`,
SafeFormatter…) with the flag clear, which is the hypothesis `p.erroring = false` of the theorems of C15 and C17.
The flag is only ever set inside `badVerb`'s bracket, so the frame "set on return only if set on entry" is respected by
every primitive step (`errFrame`), and the fundamental lemma for one run (Proofs/Sim.lean) applies. `ESpec` states the
result on the diagonal of a two-run relation (two equal printers with the flag clear).
-/
namespace Redact.EqE

def NoW (_ : List Byte) : Prop := True
theorem NoW.suffix {f r : List Byte} (_ : NoW f) (_ : r <:+ f) : NoW r := trivial


structure Eqv (p p' : PP) : Prop where
  buf : p'.buf = p.buf
  override : p'.override = p.override
  f : p'.f = p.f
  erroring : p'.erroring = p.erroring
  panicking : p'.panicking = p.panicking
  reordered : p'.reordered = p.reordered
  goodArgNum : p'.goodArgNum = p.goodArgNum
  wrapErrs : p'.wrapErrs = p.wrapErrs
  wrappedErr : p'.wrappedErr = p.wrappedErr
  ne : p.erroring = false

inductive RelR : Res → Res → Prop
  | ok {q q' : PP} : Eqv q q' → RelR (.ok q) (.ok q')
  | panic (b : Buffer) (pl : Val) : RelR (.panic b pl) (.panic b pl)
  | fuel : RelR .fuel .fuel
  | unsupported : RelR .unsupported .unsupported

inductive RelS : SRes → SRes → Prop
  | ok {q q' : PP} : Eqv q q' → RelS (.ok q) (.ok q')
  | raised {q q' : PP} (pl : Val) : Eqv q q' → RelS (.raised q pl) (.raised q' pl)
  | abort {r r' : Res} : RelR r r' → RelS (.abort r) (.abort r')

structure RelH (a a' : Bool × Res) : Prop where
  fst : a'.1 = a.1
  snd : RelR a.2 a'.2

theorem Eqv.setErroring {p p' : PP} (h : Eqv p p') : Eqv { p with erroring := false } { p' with erroring := false } :=
  ⟨h.buf, h.override, h.f, rfl, h.panicking, h.reordered, h.goodArgNum, h.wrapErrs, h.wrappedErr, rfl⟩
theorem Eqv.setPanicking {p p' : PP} (h : Eqv p p') (e : Bool) : Eqv { p with panicking := e } { p' with panicking := e } :=
  ⟨h.buf, h.override, h.f, h.erroring, rfl, h.reordered, h.goodArgNum, h.wrapErrs, h.wrappedErr, h.ne⟩
theorem Eqv.setWrapped {p p' : PP} (h : Eqv p p') (w : Option Nat) (e : Bool) :
    Eqv { p with wrappedErr := w, wrapErrs := e } { p' with wrappedErr := w, wrapErrs := e } :=
  ⟨h.buf, h.override, h.f, h.erroring, h.panicking, h.reordered, h.goodArgNum, rfl, rfl, h.ne⟩
theorem Eqv.setWrappedErr {p p' : PP} (h : Eqv p p') (w : Option Nat) :
    Eqv { p with wrappedErr := w } { p' with wrappedErr := w } :=
  ⟨h.buf, h.override, h.f, h.erroring, h.panicking, h.reordered, h.goodArgNum, h.wrapErrs, rfl, h.ne⟩
theorem Eqv.setGood {p p' : PP} (h : Eqv p p') (e : Bool) : Eqv { p with goodArgNum := e } { p' with goodArgNum := e } :=
  ⟨h.buf, h.override, h.f, h.erroring, h.panicking, h.reordered, rfl, h.wrapErrs, h.wrappedErr, h.ne⟩
theorem Eqv.setBuf {p p' : PP} (h : Eqv p p') (b : Buffer) : Eqv { p with buf := b } { p' with buf := b } :=
  ⟨rfl, h.override, h.f, h.erroring, h.panicking, h.reordered, h.goodArgNum, h.wrapErrs, h.wrappedErr, h.ne⟩
/-- The nested printer of `SafePrinter.Print/Printf`: a fresh printer sharing buffer and override. -/
theorem Eqv.nested {p p' : PP} (h : Eqv p p') :
    ({ buf := p'.buf, override := p'.override } : PP) = { buf := p.buf, override := p.override } := by
  rw [h.buf, h.override]

theorem Eqv.restore {q q' : PP} (h : Eqv q q') (r : PP.Restorer) : Eqv (q.restore r) (q'.restore r) :=
  ⟨by simp [PP.restore, h.buf], rfl, h.f, h.erroring, h.panicking, h.reordered, h.goodArgNum, h.wrapErrs, h.wrappedErr, h.ne⟩

theorem eq_of_eqv {p p' : PP} (h : Eqv p p') : p' = p := by
  obtain ⟨b, o, f, e, pa, w, we, r, g⟩ := p
  obtain ⟨b', o', f', e', pa', w', we', r', g'⟩ := p'
  obtain ⟨h1, h2, h3, h4, h5, h6, h7, h8, h9, _⟩ := h
  simp only at h1 h2 h3 h4 h5 h6 h7 h8 h9
  subst h1 h2 h3 h4 h5 h6 h7 h8 h9
  rfl

theorem eqv_diag (p : PP) (h : p.erroring = false) : Eqv p p := ⟨rfl, rfl, rfl, rfl, rfl, rfl, rfl, rfl, rfl, h⟩

theorem rel_bind_same (a : Res) (k : PP → Res) (hk : ∀ q, RelR (k q) (k q)) : RelR (a.bind k) (a.bind k) := by
  cases a <;> simp only [Res.bind]
  · exact hk _
  · exact .panic _ _
  · exact .fuel
  · exact .unsupported

structure ESpec (env : Env) (n : Nat) : Prop where
  printArg : ∀ p p' v verb, Eqv p p' → verb = verb → RelR (printArg env n p v verb) (printArg env n p' v verb)
  printArgBody : ∀ p p' v verb, Eqv p p' → verb = verb → RelR (printArgBody env n p v verb) (printArgBody env n p' v verb)
  badVerb : ∀ p p' v verb via, Eqv p p' → verb = verb → RelR (badVerb env n p v verb via) (badVerb env n p' v verb via)
  handleMethods : ∀ p p' v verb, Eqv p p' → verb = verb → RelH (handleMethods env n p v verb) (handleMethods env n p' v verb)
  methDispatch : ∀ p p' v ms nr ret sc verb, Eqv p p' → verb = verb →
    RelH (methDispatch env n p v ms nr ret sc verb) (methDispatch env n p' v ms nr ret sc verb)
  fmtString : ∀ p p' v ret verb, Eqv p p' → verb = verb → RelR (fmtString env n p v ret verb) (fmtString env n p' v ret verb)
  catchPanic : ∀ (p0 p0' : PP) (arg : Val) (verb : Nat) (m : List Byte) (nr : Bool) (out out' : SRes), RelS out out' → verb = verb →
    RelR (catchPanic env n p0 arg verb m nr out) (catchPanic env n p0' arg verb m nr out')
  runScript : ∀ p p' sc, Eqv p p' → RelS (runScript env n p sc) (runScript env n p' sc)
  printValue : ∀ p p' v verb d ro, Eqv p p' → verb = verb → RelR (printValue env n p v verb d ro) (printValue env n p' v verb d ro)
  printSlot : ∀ p p' v verb d i ro, Eqv p p' → verb = verb → RelR (printSlot env n p v verb d i ro) (printSlot env n p' v verb d i ro)
  slotMethods : ∀ p p' v verb, Eqv p p' → verb = verb → RelH (slotMethods env n p v verb) (slotMethods env n p' v verb)
  printFields : ∀ p p' fs verb d ro f, Eqv p p' → verb = verb → RelR (printFields env n p fs verb d ro f) (printFields env n p' fs verb d ro f)
  printElems : ∀ p p' vs verb d i ro f, Eqv p p' → verb = verb → RelR (printElems env n p vs verb d i ro f) (printElems env n p' vs verb d i ro f)
  printPairs : ∀ p p' ks vs verb d ik iv ro f, Eqv p p' → verb = verb →
    RelR (printPairs env n p ks vs verb d ik iv ro f) (printPairs env n p' ks vs verb d ik iv ro f)
  doPrint : ∀ p p' args, Eqv p p' → RelR (doPrint env n p args) (doPrint env n p' args)
  doPrintLoop : ∀ p p' args k ps, Eqv p p' → RelR (doPrintLoop env n p args k ps) (doPrintLoop env n p' args k ps)
  doPrintf : ∀ p p' f args, Eqv p p' → NoW f → RelR (doPrintf env n p f args) (doPrintf env n p' f args)
  fmtLoop : ∀ p p' f args k ai, Eqv p p' → NoW f → RelR (fmtLoop env n p f args k ai) (fmtLoop env n p' f args k ai)
  directiveTail : ∀ p p' f args k ai, Eqv p p' → NoW f →
    RelR (directiveTail env n p f args k ai) (directiveTail env n p' f args k ai)
  finishPrintf : ∀ p p' args k, Eqv p p' → RelR (finishPrintf env n p args k) (finishPrintf env n p' args k)
  extraLoop : ∀ p p' args f, Eqv p p' → RelR (extraLoop env n p args f) (extraLoop env n p' args f)


/-- `erroring` is set on return only if it was set on entry: it is set nowhere but inside `badVerb`'s bracket, which clears it. -/
def errFrame (env : Env) : Frame env where
  toOperands := .any env
  Pre _ := True
  G p q := q.erroring = true → p.erroring = true
  D p q := q.erroring = true → p.erroring = true
  B _ _ := True
  refl _ h := h
  trans h1 h2 h := h1 (h2 h)
  pre _ _ := trivial
  B_trans _ _ := trivial
  B_of_G _ := trivial
  w _ _ h := h
  wb _ _ h := h
  wr _ _ h := h
  setF _ _ h := h
  setPanicking _ _ h := h
  setWrapped _ _ _ _ h := h
  setWrappedErr _ _ _ h := h
  setReordered _ _ h := h
  setGood _ _ h := h
  err_enter _ := trivial
  err_exit _ _ h := by cases h
  start_in _ _ := trivial
  start_out {start p q} hs _ g h := by
    have e : ∀ x : PP, (start x).1.erroring = x.erroring := by
      cases hs <;> intro x <;> simp only [PP.startSafeOverride, PP.startUnsafeOverride, PP.startUnsafe] <;> split <;> rfl
    rw [← e]; exact g h
  start_pn _ _ _ := trivial
  redactable := @fun p _ _ _ _ h => by
    have e : p.startPreRedactable.1.erroring = p.erroring := by unfold PP.startPreRedactable; split <;> rfl
    rw [← e]; exact h
  nested_in _ := trivial
  nested_out _ _ h := h
  nested_pn _ _ h := h
  setSafe_in _ := trivial
  setSafe_out := @fun p _ _ g h => by
    have e : p.setSafe.erroring = p.erroring := by unfold PP.setSafe; split <;> rfl
    rw [← e]; exact g h
  setSafe_pn _ _ := trivial

section
variable {env : Env} {p : PP}

theorem clear_of_G {q : PP} (hp : p.erroring = false) (g : q.erroring = true → p.erroring = true) : q.erroring = false := by
  cases hq : q.erroring
  · rfl
  · rw [g hq] at hp; cases hp

theorem relR_diag {r : Res} (hp : p.erroring = false) (h : (errFrame env).OkR p r) : RelR r r := by
  cases r with
  | ok q => exact .ok (eqv_diag q (clear_of_G hp h.ok))
  | panic b pl => exact .panic b pl
  | fuel => exact .fuel
  | unsupported => exact .unsupported

theorem relD_diag {r : Res} (hp : p.erroring = false) (h : (errFrame env).OkD p r) : RelR r r :=
  relR_diag hp (Logic.RelD.relR id h)

theorem relS_diag {o : SRes} (hp : p.erroring = false) (h : (errFrame env).OkS p o) : RelS o o := by
  cases o with
  | ok q => exact .ok (eqv_diag q (clear_of_G hp h.ok))
  | raised q pl => exact .raised pl (eqv_diag q (clear_of_G hp h.raised.1))
  | abort r => exact .abort (relR_diag hp h.abort)

theorem relH_diag {a : Bool × Res} (hp : p.erroring = false) (h : (errFrame env).OkH p a) : RelH a a := ⟨rfl, relR_diag hp h⟩

theorem eq_of_relR {r r' : Res} (h : RelR r r') : r' = r := by
  cases h with
  | ok h => rw [eq_of_eqv h]
  | panic | fuel | unsupported => rfl

/-- Related outcomes of a method are equal, and leave the flag clear if they leave a printer. -/
theorem okS_of_relS {o o' : SRes} (h : RelS o o') : o' = o ∧ (errFrame env).OkS newPP o := by
  have clear : ∀ {q q' : PP}, Eqv q q' → q.erroring = true → newPP.erroring = true :=
    fun h hq => by rw [h.ne] at hq; cases hq
  cases h with
  | ok h => exact ⟨by rw [eq_of_eqv h], Logic.RelS.ok ⟨rfl, clear h⟩⟩
  | raised pl h => exact ⟨by rw [eq_of_eqv h], Logic.RelS.raised ⟨rfl, clear h⟩ trivial⟩
  | abort h =>
    refine ⟨by rw [eq_of_relR h], Logic.RelS.abort ?_⟩
    cases h with
    | ok h => exact Logic.RelR.ok ⟨rfl, clear h⟩
    | panic b pl => exact Logic.RelR.panic ⟨rfl, trivial⟩ trivial
    | fuel => exact Logic.RelR.fuel
    | unsupported => exact Logic.RelR.unsupported

end

theorem catchPanic_p0 (env : Env) (n : Nat) (p0 p0' : PP) (arg : Val) (verb : Nat) (m : List Byte) (nr : Bool) (out : SRes) :
    catchPanic env n p0' arg verb m nr out = catchPanic env n p0 arg verb m nr out := by
  cases n with
  | zero => simp only [catchPanic]
  | succ n => unfold catchPanic; rfl

/-- **Entered with `erroring` clear, every function of the printer returns with it clear**, at every fuel. -/
theorem espec_all (env : Env) : ∀ n, ESpec env n := by
  intro n
  have S := (errFrame env).spec_all (fun _ _ => trivial) n
  have L := Operands.any_list env
  exact {
    printArg := fun p p' v verb h _ => by rw [eq_of_eqv h]; exact relR_diag h.ne (S.printArg p v verb trivial trivial trivial)
    printArgBody := fun p p' v verb h _ => by rw [eq_of_eqv h]; exact relR_diag h.ne (S.printArgBody p v verb trivial trivial trivial)
    badVerb := fun p p' v verb via h _ => by rw [eq_of_eqv h]; exact relR_diag h.ne (S.badVerb p v verb via trivial trivial)
    handleMethods := fun p p' v verb h _ => by rw [eq_of_eqv h]; exact relH_diag h.ne (S.handleMethods p v verb trivial trivial trivial)
    methDispatch := fun p p' v ms nr ret sc verb h _ => by
      rw [eq_of_eqv h]; exact relH_diag h.ne (S.methDispatch p v ms nr ret sc verb trivial trivial trivial trivial)
    fmtString := fun p p' v ret verb h _ => by rw [eq_of_eqv h]; exact relR_diag h.ne (S.fmtString p v ret verb trivial trivial trivial)
    catchPanic := fun p0 p0' arg verb m nr out out' h _ => by
      obtain ⟨e, ho⟩ := okS_of_relS (env := env) h
      rw [e, catchPanic_p0 env n p0 p0']
      exact relR_diag (p := newPP) rfl (S.catchPanic newPP p0 arg verb m nr out trivial trivial ho)
    runScript := fun p p' sc h => by rw [eq_of_eqv h]; exact relS_diag h.ne (S.runScript p sc trivial trivial)
    printValue := fun p p' v verb d ro h _ => by rw [eq_of_eqv h]; exact relR_diag h.ne (S.printValue p v verb d ro trivial trivial trivial)
    printSlot := fun p p' v verb d i ro h _ => by rw [eq_of_eqv h]; exact relR_diag h.ne (S.printSlot p v verb d i ro trivial trivial trivial)
    slotMethods := fun p p' v verb h _ => by rw [eq_of_eqv h]; exact relH_diag h.ne (S.slotMethods p v verb trivial trivial trivial)
    printFields := fun p p' fs verb d ro f h _ => by
      rw [eq_of_eqv h]; exact relR_diag h.ne (S.printFields p fs verb d ro f trivial trivial trivial)
    printElems := fun p p' vs verb d i ro f h _ => by
      rw [eq_of_eqv h]; exact relR_diag h.ne (S.printElems p vs verb d i ro f trivial trivial trivial)
    printPairs := fun p p' ks vs verb d ik iv ro f h _ => by
      rw [eq_of_eqv h]; exact relR_diag h.ne (S.printPairs p ks vs verb d ik iv ro f trivial trivial trivial trivial)
    doPrint := fun p p' args h => by rw [eq_of_eqv h]; exact relD_diag h.ne (S.doPrint p args trivial (L _))
    doPrintLoop := fun p p' args k ps h => by rw [eq_of_eqv h]; exact relR_diag h.ne (S.doPrintLoop p args k ps trivial (L _))
    doPrintf := fun p p' f args h _ => by rw [eq_of_eqv h]; exact relD_diag h.ne (S.doPrintf p f args trivial trivial (L _))
    fmtLoop := fun p p' f args k ai h _ => by rw [eq_of_eqv h]; exact relR_diag h.ne (S.fmtLoop p f args k ai trivial trivial (L _))
    directiveTail := fun p p' f args k ai h _ => by
      rw [eq_of_eqv h]; exact relR_diag h.ne (S.directiveTail p f args k ai trivial trivial (L _))
    finishPrintf := fun p p' args k h => by rw [eq_of_eqv h]; exact relR_diag h.ne (S.finishPrintf p args k trivial (L _))
    extraLoop := fun p p' args f h => by rw [eq_of_eqv h]; exact relR_diag h.ne (S.extraLoop p args f trivial (L _)) }

theorem ok_of_rel {r : Res} {q : PP} (h : RelR r r) (hr : r = .ok q) : q.erroring = false := by
  subst hr
  cases h with
  | ok hq => exact hq.ne

/-- An operand printed with the flag clear leaves it clear — whatever the operand, its methods and the verb (a bad
verb sets it while the operand is printed again, and clears it). -/
theorem printArg_clear (env : Env) (n : Nat) (p : PP) (v : Val) (verb : Nat) (hp : p.erroring = false) (q : PP)
    (h : printArg env n p v verb = .ok q) : q.erroring = false :=
  ok_of_rel ((espec_all env n).printArg p p v verb (eqv_diag p hp) rfl) h

theorem doPrint_clear (env : Env) (n : Nat) (p : PP) (args : List Val) (hp : p.erroring = false) (q : PP)
    (h : doPrint env n p args = .ok q) : q.erroring = false :=
  ok_of_rel ((espec_all env n).doPrint p p args (eqv_diag p hp)) h

theorem doPrintf_clear (env : Env) (n : Nat) (p : PP) (f : List Byte) (args : List Val) (hp : p.erroring = false) (q : PP)
    (h : doPrintf env n p f args = .ok q) : q.erroring = false :=
  ok_of_rel ((espec_all env n).doPrintf p p f args (eqv_diag p hp) trivial) h

/-- The loop of `doPrintf` from any position: the operands of the rest of the format are all reached with the flag clear
when the position is (`fmtLoop` is what runs after each operand). -/
theorem fmtLoop_clear (env : Env) (n : Nat) (p : PP) (f : List Byte) (args : List Val) (k : Nat) (ai : Bool)
    (hp : p.erroring = false) (q : PP) (h : fmtLoop env n p f args k ai = .ok q) : q.erroring = false :=
  ok_of_rel ((espec_all env n).fmtLoop p p f args k ai (eqv_diag p hp) trivial) h

end Redact.EqE
