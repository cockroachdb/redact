import RedactVerif.Model.Utf8
/-
Facts about the transcription of utf8.DecodeRune / DecodeLastRune: what `decodeRune` accepts, and
that the tail test of the escape routine fires whenever the buffer ends in a proper prefix of a
marker (T1).
-/
namespace Redact

theorem byte_forall (P : Byte → Prop) (h : ∀ n : Fin 256, P (UInt8.ofNat n.val)) : ∀ a : Byte, P a := by
  intro a
  have := h ⟨a.toNat, a.toNat_lt⟩
  simpa using this

/-- What the `first` table of utf8.go says about a lead byte. -/
theorem leadInfo_spec {a : Byte} {sz : Nat} {lo hi : Byte} (h : leadInfo a = some (sz, lo, hi)) :
    0xC2 ≤ a ∧ (sz = 2 ∨ sz = 3 ∨ sz = 4) ∧ 0x80 ≤ lo ∧ hi ≤ 0xBF :=
  byte_forall
    (fun a => ∀ t ∈ leadInfo a, 0xC2 ≤ a ∧ (t.1 = 2 ∨ t.1 = 3 ∨ t.1 = 4) ∧ 0x80 ≤ t.2.1 ∧ t.2.2 ≤ 0xBF)
    (by decide +kernel) a _ h

/-- `decodeRune` behind a lead byte, on an input long enough for the size the `first` table
announces: the second byte is checked against the table's range, the others are continuation bytes. -/
theorem decodeRune_lead {c b : Byte} {t : List Byte} {lo hi : Byte}
    (hl : leadInfo c = some (t.length + 2, lo, hi)) (p : List Byte) :
    decodeRune (c :: b :: (t ++ p)) =
      if lo ≤ b ∧ b ≤ hi ∧ ∀ x ∈ t, isCont x = true then (false, t.length + 2) else (true, 1) := by
  obtain ⟨hc, hsz, -⟩ := leadInfo_spec hl
  have hc : ¬ c < 0x80 := UInt8.not_lt.mpr (UInt8.le_trans (by decide) hc)
  have hn : ¬ (t ++ p).length + 1 + 1 < t.length + 2 := by simp
  rw [decodeRune, if_neg hc, hl]
  simp only [List.length_cons, if_neg hn]
  by_cases hb : lo ≤ b ∧ b ≤ hi
  · have : (decide (b < lo) || decide (hi < b)) = false := by simp [hb]
    simp only [this, hb, true_and]
    rcases hsz with h | h | h
    · obtain rfl : t = [] := List.length_eq_zero_iff.mp (by omega)
      simp
    · obtain ⟨x, rfl⟩ := List.length_eq_one_iff.mp (show t.length = 1 by omega)
      cases hx : isCont x <;> simp [hx]
    · match t, h with
      | [x, y], _ => cases hx : isCont x <;> cases hy : isCont y <;> simp [hx, hy]
  · have : (decide (b < lo) || decide (hi < b)) = true := by
      rcases Decidable.not_and_iff_not_or_not.mp hb with h | h <;> simp [UInt8.not_le.mp h]
    rw [if_pos this, if_neg (fun h => hb ⟨h.1, h.2.1⟩)]

/-- All that `decodeRune` returns, and the inputs on which it succeeds. -/
theorem decodeRune_cases (w : List Byte) :
    decodeRune w = (true, 0) ∨ decodeRune w = (true, 1) ∨
      (∃ c p, w = c :: p ∧ c < 0x80 ∧ decodeRune w = (false, 1)) ∨
      ∃ c lo hi b t p, w = c :: b :: (t ++ p) ∧ leadInfo c = some (t.length + 2, lo, hi) ∧
        lo ≤ b ∧ b ≤ hi ∧ (∀ x ∈ t, isCont x = true) ∧ decodeRune w = (false, t.length + 2) := by
  rcases w with _ | ⟨c, rest⟩
  · exact .inl rfl
  by_cases hc : c < 0x80
  · exact .inr (.inr (.inl ⟨c, rest, rfl, hc, by rw [decodeRune, if_pos hc]⟩))
  cases hl : leadInfo c with
  | none => exact .inr (.inl (by rw [decodeRune, if_neg hc, hl]))
  | some i =>
    obtain ⟨sz, lo, hi⟩ := i
    by_cases hs : (c :: rest).length < sz
    · exact .inr (.inl (by rw [decodeRune, if_neg hc, hl]; exact if_pos hs))
    · obtain ⟨b, t, p, rfl, rfl⟩ : ∃ b t p, rest = b :: (t ++ p) ∧ sz = t.length + 2 := by
        have := (leadInfo_spec hl).2.1
        rcases rest with _ | ⟨b, r⟩
        · simp at hs; omega
        · exact ⟨b, r.take (sz - 2), r.drop (sz - 2), by simp, by simp at hs ⊢; omega⟩
      rw [decodeRune_lead hl]
      split
      · rename_i h
        exact .inr (.inr (.inr ⟨c, lo, hi, b, t, p, rfl, hl, h.1, h.2.1, h.2.2, rfl⟩))
      · exact .inr (.inl rfl)

/-- `decodeRune` reports an error only with size 0 (empty input) or 1. -/
theorem decodeRune_err_size (w : List Byte) {n : Nat} (h : decodeRune w = (true, n)) : n ≤ 1 := by
  rcases decodeRune_cases w with e | e | ⟨_, _, _, _, e⟩ | ⟨_, _, _, _, _, _, _, _, _, _, _, e⟩ <;>
    rw [e] at h <;> cases h <;> decide

theorem isCont_of_lead {c b lo hi : Byte} {sz : Nat} (hl : leadInfo c = some (sz, lo, hi)) (h1 : lo ≤ b) (h2 : b ≤ hi) :
    isCont b = true := by
  obtain ⟨-, -, hlo, hhi⟩ := leadInfo_spec hl
  simp [isCont, UInt8.le_trans hlo h1, UInt8.le_trans h2 hhi]

/-- A character that `decodeRune` accepts ends in an ASCII byte or a continuation byte. -/
theorem decodeRune_last {w : List Byte} {last : Byte} (h : decodeRune (w ++ [last]) = (false, (w ++ [last]).length)) :
    last < 0x80 ∨ isCont last = true := by
  rcases decodeRune_cases (w ++ [last]) with e | e | ⟨c, p, hw, hc, e⟩ | ⟨c, lo, hi, b, t, p, hw, hl, h1, h2, ht, e⟩
  · rw [e] at h; cases h
  · rw [e] at h; cases h
  · rw [e] at h
    obtain rfl : w = [] := by simpa using h
    cases hw; exact .inl hc
  · rw [e] at h
    obtain rfl : p = [] := List.eq_nil_of_length_eq_zero (by have := congrArg List.length hw; simp at h this; omega)
    have : last ∈ b :: (t ++ []) := List.mem_of_getLast? (by rw [← List.getLast?_cons_cons (a := c), ← hw]; simp)
    rcases List.mem_cons.mp this with rfl | hm
    · exact .inr (isCont_of_lead hl h1 h2)
    · exact .inr (ht _ (by simpa using hm))

/-- The tail test passes on a non-ASCII last byte exactly when the window `DecodeLastRune` looks at
(the last byte and the up to three bytes before it back to a rune start) decodes as a whole. -/
theorem tailBad_window {l rev : List Byte} {last : Byte} (hr : l.reverse = last :: rev) (hl : ¬ last < 0x80) :
    tailBad l = false ↔
      let back := backScan 3 rev 0
      let w := (rev.take (if back > rev.length then rev.length else back)).reverse ++ [last]
      decodeRune w = (false, w.length) := by
  unfold tailBad
  rw [hr]
  simp only [if_neg hl]
  generalize (rev.take _).reverse = t
  cases hd : decodeRune (t ++ [last]) with
  | mk err size =>
    have he := decodeRune_err_size (t ++ [last]) (n := size)
    cases err <;> simp [hd] at he ⊢
    omega

theorem runeStart_E2 : runeStart 0xE2 = true := by decide

/-- (T1) A buffer ending in a proper prefix of a marker is reported by the
tail test of `InternalEscapeBytes`, so `?` is appended after it. -/
theorem tailBad_of_dangB (l : List Byte) (h : dangB l = true) : tailBad l = true := by
  cases ht : tailBad l with
  | true => rfl
  | false =>
    exfalso
    unfold dangB at h
    split at h
    · -- last byte E2: neither ASCII nor a continuation byte
      rename_i rev hr
      exact absurd (decodeRune_last ((tailBad_window hr (by decide)).mp ht)) (by decide)
    · -- last bytes E2 80: the window is these two bytes
      rename_i rev hr
      have := (tailBad_window hr (by decide)).mp ht
      simp [backScan, runeStart_E2] at this
      revert this; decide
    · cases h

theorem and3F (n : Nat) : n &&& 0x3F = n % 64 := Nat.and_two_pow_sub_one_eq_mod n 6

theorem runeLen_cases (r : Int) :
    (runeLen r = none) ∨
    (runeLen r = some 1 ∧ 0 ≤ r ∧ r ≤ 0x7F) ∨
    (runeLen r = some 2 ∧ 0x80 ≤ r ∧ r ≤ 0x7FF) ∨
    (runeLen r = some 3 ∧ 0x800 ≤ r ∧ r ≤ 0xFFFF ∧ ¬ (0xD800 ≤ r ∧ r ≤ 0xDFFF)) ∨
    (runeLen r = some 4 ∧ 0x10000 ≤ r ∧ r ≤ 0x10FFFF) := by
  by_cases h0 : r < 0
  · exact .inl (by simp [runeLen, h0])
  by_cases h1 : r ≤ 0x7F
  · exact .inr (.inl ⟨by simp [runeLen, h0, h1], by omega, h1⟩)
  by_cases h2 : r ≤ 0x7FF
  · exact .inr (.inr (.inl ⟨by simp [runeLen, h0, h1, h2], by omega, h2⟩))
  by_cases hs : 0xD800 ≤ r ∧ r ≤ 0xDFFF
  · exact .inl (by simp [runeLen, h0, h1, h2, hs])
  by_cases h3 : r ≤ 0xFFFF
  · exact .inr (.inr (.inr (.inl ⟨by simp [runeLen, h0, h1, h2, hs, h3], by omega, h3, hs⟩)))
  by_cases h4 : r ≤ 0x10FFFF
  · exact .inr (.inr (.inr (.inr ⟨by simp [runeLen, h0, h1, h2, hs, h3, h4], by omega, h4⟩)))
  · exact .inl (by simp [runeLen, h0, h1, h2, hs, h3, h4])

end Redact
