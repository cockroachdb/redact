import RedactVerif.Model.Printer
/-
`printSlot` cut at its local closures. The model writes the prologue of `printValue` for `depth > 0`
as nested `let`-bound functions; here each layer has a name and `printSlot` its equations, so that a
proof about `printSlot` goes layer by layer instead of restating the whole body. Likewise
`directiveTail`: the parser stages up to the verb, and what is done with the verb.
-/
namespace Redact

variable (env : Env) (n : Nat) (v : Val) (verb d : Nat) (i ro : Bool)

/-- No method printed the slot: an interface-typed slot is entered, a concrete one is printed by kind. -/
def slotNoMethod (q : PP) : Res :=
  if i = true then printSlot env n q v verb (d + 1) false ro else printValue env n q v verb d ro

/-- Methods are looked for unless the value sits behind an unexported field. -/
def slotAfterMethods (q : PP) : Res :=
  if (!ro) = true then
    match slotMethods env n q v verb with
    | (true, r) => r
    | (false, _) => slotNoMethod env n v verb d i ro q
  else slotNoMethod env n v verb d i ro q

/-- A `SafeValue` is printed under the safe override. -/
def slotBody (q : PP) : Res :=
  if (!ro) = true ∧ isSafeValue v = true then bracket PP.startSafeOverride q (slotAfterMethods env n v verb d i ro)
  else slotAfterMethods env n v verb d i ro q

/-- A value of a registered type in a concretely typed slot is printed under the safe override. -/
def slotGeneral (p : PP) : Res :=
  if (!i) = true ∧ isRegistered v = true then bracket PP.startSafeOverride p (slotBody env n v verb d i ro)
  else slotBody env n v verb d i ro p

/-- The slots `handleSpecialValues` recognises by their static type. -/
def Val.special : Val → Bool
  | .safeW _ | .unsafeW _ | .redactable _ _ => true
  | _ => false

variable {env n v verb d i ro} (p : PP)

theorem printSlot_eq_nil : printSlot env (n + 1) p .nil verb d i ro =
    if p.f.sharpV = true then
      -- "interface {}(nil)"
      .ok (p.w ([0x69, 0x6E, 0x74, 0x65, 0x72, 0x66, 0x61, 0x63, 0x65, 0x20, 0x7B, 0x7D, 0x28, 0x6E, 0x69, 0x6C, 0x29] : List UInt8))
    else .ok (p.w nilAngle) := by
  simp only [printSlot]

theorem printSlot_eq_safeW (w : Val) : printSlot env (n + 1) p (.safeW w) verb d false ro =
    bracket PP.startSafeOverride p fun q => printSlot env n q w verb (d + 1) true true := by
  simp [printSlot]

theorem printSlot_eq_unsafeW (w : Val) : printSlot env (n + 1) p (.unsafeW w) verb d false ro =
    bracket PP.startUnsafeOverride p fun q => printSlot env n q w verb (d + 1) true true := by
  simp [printSlot]

theorem printSlot_eq_redactable (c ty : List Byte) : printSlot env (n + 1) p (.redactable c ty) verb d false ro =
    bracket PP.startPreRedactable p fun q => .ok (q.w c) := by
  simp [printSlot]

theorem printSlot_eq_general (hn : v ≠ .nil) (h : i = true ∨ v.special = false) :
    printSlot env (n + 1) p v verb d i ro = slotGeneral env n v verb d i ro p := by
  unfold printSlot
  cases i
  · -- a concretely typed slot: the three special operands are excluded by `h`
    cases v <;> first | exact absurd rfl hn | rfl | (exact absurd h (by simp [Val.special]))
  · cases v <;> first | exact absurd rfl hn | rfl

def directiveStages (p : PP) (f : List Byte) (args : List Val) (k : Nat) : PP × Nat × List Byte × Bool :=
  let (p, k, r, ai) := argNumber p k f args.length
  let (p, k, r, ai) := widthStage p args k r ai
  let (p, k, r, ai) := precStage p args k r ai
  if !ai then argNumber p k r args.length else (p, k, r, ai)

def directiveVerb (env : Env) (n : Nat) (args : List Val) : PP × Nat × List Byte × Bool → Res
  | (p, k, r, _) =>
    match decodeVerb r with
    -- "%!(NOVERB)"
    | none => .ok (p.w ([0x25, 0x21, 0x28, 0x4E, 0x4F, 0x56, 0x45, 0x52, 0x42, 0x29] : List UInt8))
    | some (verb, r') =>
      if verb = 0x25 then fmtLoop env n (p.wb 0x25) r' args k false
      else if !p.goodArgNum then
        -- "(BADINDEX)"
        fmtLoop env n (((p.w percentBang).wr verb).w ([0x28, 0x42, 0x41, 0x44, 0x49, 0x4E, 0x44, 0x45, 0x58, 0x29] : List UInt8)) r' args k false
      else if k ≥ args.length then
        -- "(MISSING)"
        fmtLoop env n (((p.w percentBang).wr verb).w ([0x28, 0x4D, 0x49, 0x53, 0x53, 0x49, 0x4E, 0x47, 0x29] : List UInt8)) r' args k false
      else
        let p := if verb = 118 then
            { p with f := { p.f with sharpV := p.f.sharp, sharp := false, plusV := p.f.plus, plus := false } }
          else p
        match args[k]? with
        | some a => (printArg env n p a verb).bind fun p => fmtLoop env n p r' args (k + 1) false
        | none => .ok p

theorem directiveTail_eq (f : List Byte) (args : List Val) (k : Nat) (ai : Bool) :
    directiveTail env (n + 1) p f args k ai = directiveVerb env n args (directiveStages p f args k) := by
  unfold directiveTail directiveStages directiveVerb
  rfl

end Redact
