import RedactVerif.Proofs.Escape
import RedactVerif.Proofs.Scan
import RedactVerif.Proofs.Utf8
/-
Dangling-ness of scanner output (D1), the `goodT` end condition and how it rules out straddling markers.
-/
namespace Redact

/-- `dangB` by the last byte and the one before it. -/
theorem dangB_snoc (l : List Byte) (y : Byte) :
    dangB (l ++ [y]) = (y == 0xE2 || (y == 0x80 && l.getLast? == some 0xE2)) := by
  unfold dangB
  rw [List.reverse_append, List.reverse_singleton, List.singleton_append, List.getLast?_eq_head?_reverse]
  by_cases h1 : y = 0xE2
  · subst h1; rfl
  by_cases h2 : y = 0x80
  · subst h2
    rcases l.reverse with _ | ⟨z, t⟩
    · rfl
    · by_cases h3 : z = 0xE2
      · subst h3; rfl
      · split
        · rename_i h; cases h
        · rename_i h; cases h; exact absurd rfl h3
        · simp [h3]
  · split
    · rename_i h; exact absurd (List.cons.inj h).1 h1
    · rename_i h; exact absurd (List.cons.inj h).1 h2
    · simp [h1, h2]

/-- Behind a byte that is neither `E2` nor `80`, `dangB` sees only what follows it. -/
theorem dangB_behind (a : List Byte) {p : Byte} (h1 : p ≠ 0xE2) (h2 : p ≠ 0x80) (r : List Byte) :
    dangB (a ++ p :: r) = dangB r := by
  rcases r.eq_nil_or_concat with rfl | ⟨r, y, rfl⟩
  · rw [dangB_snoc]; simp [h1, h2, dangB]
  · have hl : ((a ++ p :: r).getLast? == some 0xE2) = (r.getLast? == some 0xE2) := by
      rcases r.eq_nil_or_concat with rfl | ⟨r, z, rfl⟩
      · simp [h1]
      · rw [List.concat_eq_append, ← List.cons_append, ← List.append_assoc, List.getLast?_concat, List.getLast?_concat]
    rw [List.concat_eq_append, ← List.cons_append, ← List.append_assoc, dangB_snoc, dangB_snoc, hl]

/-- (D1) If the scanner's output ends in a proper marker prefix, so does its input. -/
theorem dangB_escGo (nl : Bool) (out rest : List Byte) (h : dangB (escGo nl out rest) = true) :
    dangB (out ++ rest) = true := by
  fun_induction escGo nl out rest with
  | case1 out => simpa using h
  | case2 out r ih =>
    have := ih h
    rw [escB, List.append_assoc, List.singleton_append, dangB_behind _ (by decide) (by decide)] at this
    rw [show out ++ 0xE2 :: 0x80 :: 0xB9 :: r = (out ++ [0xE2, 0x80]) ++ 0xB9 :: r by simp,
      dangB_behind _ (by decide) (by decide), this]
  | case3 out r ih =>
    have := ih h
    rw [escB, List.append_assoc, List.singleton_append, dangB_behind _ (by decide) (by decide)] at this
    rw [show out ++ 0xE2 :: 0x80 :: 0xBA :: r = (out ++ [0xE2, 0x80]) ++ 0xBA :: r by simp,
      dangB_behind _ (by decide) (by decide), this]
  | case4 out x r h1 h2 hnl out' ih =>
    obtain rfl : x = LF := by simp at hnl; exact hnl.2
    have := ih h
    rw [startB, show out' ++ [LF] ++ [0xE2, 0x80, 0xB9] ++ r = (out' ++ [LF] ++ [0xE2, 0x80]) ++ 0xB9 :: r by simp,
      dangB_behind _ (by decide) (by decide)] at this
    rw [dangB_behind _ (by decide) (by decide), this]
  | case5 out x r h1 h2 hnl ih => simpa using ih h

/-- `dangT` on reversed lists, by the last token and the one before it. -/
def dangR : List Tok → Bool
  | .b x :: t => x == 0xE2 || (x == 0x80 && t.head? == some (.b 0xE2))
  | _ => false

theorem dangT_eq (t : List Tok) : dangT t = dangR t.reverse := by
  unfold dangT
  rcases t.reverse with _ | ⟨m, s⟩
  · rfl
  cases m with
  | s => rfl
  | e => rfl
  | b x =>
    unfold dangR
    by_cases h1 : x = 0xE2
    · subst h1; rfl
    by_cases h2 : x = 0x80
    · subst h2
      rcases s with _ | ⟨z, s⟩
      · rfl
      · by_cases h3 : z = .b 0xE2
        · subst h3; rfl
        · split
          · rename_i h; cases h
          · rename_i h; cases h; exact absurd rfl h3
          · simp [h3]
    · split
      · rename_i h; cases h; exact absurd rfl h1
      · rename_i h; cases h; exact absurd rfl h2
      · simp [h1, h2]

/-- `goodT` on reversed lists. -/
def goodR (r : List Tok) : Bool := !dangR (r.dropWhile Tok.isMarker)

theorem goodT_eq (t : List Tok) : goodT t = goodR t.reverse := by
  simp [goodT, coreT, dangT_eq, goodR]

theorem goodR_append (br ar : List Tok) (ha : goodR ar = true) (hb : goodR br = true) :
    goodR (br ++ ar) = true := by
  induction br with
  | nil => exact ha
  | cons m br' ih =>
    cases m with
    | s => exact ih hb
    | e => exact ih hb
    | b x =>
      rcases br' with _ | ⟨y, br''⟩
      · -- the token before `x` is the last of `ar`, which is not `E2`, as `ar` is good
        rcases ar with _ | ⟨z, ar'⟩
        · exact hb
        · have hz : z ≠ .b 0xE2 := by rintro rfl; simp [goodR, dangR, Tok.isMarker] at ha
          simpa [goodR, dangR, Tok.isMarker, hz] using hb
      · exact hb

theorem goodT_append (a b : List Tok) (ha : goodT a = true) (hb : goodT b = true) : goodT (a ++ b) = true := by
  rw [goodT_eq] at *
  rw [List.reverse_append]
  exact goodR_append _ _ ha hb

theorem coreT_snoc_marker (t : List Tok) (m : Tok) (hm : m.isMarker = true) : coreT (t ++ [m]) = coreT t := by
  simp [coreT, hm]

theorem coreT_snoc_plain (t : List Tok) (x : Byte) : coreT (t ++ [.b x]) = t ++ [.b x] := by
  simp [coreT, Tok.isMarker]

theorem goodT_snoc_marker (t : List Tok) (m : Tok) (hm : m.isMarker = true) : goodT (t ++ [m]) = goodT t := by
  simp [goodT, coreT_snoc_marker t m hm]

theorem goodT_snoc_plain (t : List Tok) (x : Byte) : goodT (t ++ [.b x]) = !dangT (t ++ [.b x]) := by
  simp [goodT, coreT_snoc_plain]

theorem goodT_nil : goodT [] = true := by decide

theorem goodT_snoc_s (t : List Tok) : goodT (t ++ [.s]) = goodT t := goodT_snoc_marker t .s rfl
theorem goodT_snoc_e (t : List Tok) : goodT (t ++ [.e]) = goodT t := goodT_snoc_marker t .e rfl

/-- Dropping a trailing marker token preserves `goodT`. -/
theorem goodT_dropLast_of_marker {t : List Tok} {m : Tok} (hl : t.getLast? = some m) (hm : m.isMarker = true)
    (h : goodT t = true) : goodT t.dropLast = true := by
  have := eq_dropLast_append_of_getLast hl
  rw [this, goodT_snoc_marker _ m hm] at h
  exact h

theorem dangT_snoc_q (t : List Tok) : dangT (t ++ [.b 0x3F]) = false := by
  simp [dangT]

theorem dangT_snoc_lf_s (t : List Tok) : goodT (t ++ [.b LF, .s]) = true := by
  have : t ++ [.b LF, .s] = (t ++ [.b LF]) ++ [.s] := by simp
  rw [this, goodT_snoc_s, goodT_snoc_plain]
  simp [dangT, LF]

/-- Token-level dangling implies byte-level dangling. -/
theorem dangB_of_dangT (l : List Byte) (h : dangT (tokenize l) = true) : dangB l = true := by
  unfold dangT at h
  split at h
  · rename_i t ht
    have h1 : tokenize l = t.reverse ++ [.b 0xE2] := by
      have := congrArg List.reverse ht; simpa using this
    have h2 := untok_tokenize l
    rw [h1, untok_append] at h2
    rw [← h2]; simp [dangB, Tok.bytes]
  · rename_i t ht
    have h1 : tokenize l = t.reverse ++ [.b 0xE2, .b 0x80] := by
      have := congrArg List.reverse ht; simpa using this
    have h2 := untok_tokenize l
    rw [h1, untok_append] at h2
    rw [← h2]; simp [dangB, Tok.bytes]
  · simp at h

/-- Byte-level dangling implies token-level dangling. -/
theorem dangT_of_dangB (l : List Byte) (h : dangB l = true) : dangT (tokenize l) = true := by
  unfold dangB at h
  split at h
  · rename_i t ht
    have h1 : l = t.reverse ++ [0xE2] := by
      have := congrArg List.reverse ht; simpa using this
    rw [h1, tokenize_snoc _ _ (by simp)]
    simp [dangT]
  · rename_i t ht
    have h1 : l = t.reverse ++ [0xE2] ++ [0x80] := by
      have := congrArg List.reverse ht; simpa using this
    rw [h1, tokenize_snoc _ _ (by simp), tokenize_snoc _ _ (by simp)]
    simp [dangT]
  · simp at h

theorem straddles_of_not_dangB (a b : List Byte) (h : dangB a = false) : straddles a b = false := by
  unfold dangB at h
  unfold straddles
  split <;> first | rfl | (rename_i heq; rw [heq] at h; simp at h)

theorem not_goodT_of_dangT {t : List Tok} (h : dangT t = true) : goodT t = false := by
  rw [dangT_eq] at h
  rw [goodT_eq, goodR]
  generalize t.reverse = r at h ⊢
  rcases r with _ | ⟨m, s⟩
  · cases h
  · cases m <;> first | cases h | simp [List.dropWhile, Tok.isMarker, h]

/-- A validated prefix with a solid end cannot form a marker with whatever follows. -/
theorem not_straddles_of_goodT (a b : List Byte) (h : goodT (tokenize a) = true) : straddles a b = false :=
  straddles_of_not_dangB a b (by
    cases hd : dangB a with
    | false => rfl
    | true => rw [not_goodT_of_dangT (dangT_of_dangB a hd)] at h; cases h)

/-- If the last token is a marker, the end is solid. -/
def Qt (out : List Tok) : Prop := ∀ m, out.getLast? = some m → m.isMarker = true → goodT out = true

theorem Qt_snoc_plain (t : List Tok) (x : Byte) : Qt (t ++ [.b x]) := by
  intro m hm hmk
  simp at hm
  subst hm
  simp [Tok.isMarker] at hmk

theorem Qt_escTok (nl : Bool) (out rest : List Tok) (h : Qt out) : Qt (escTok nl out rest) := by
  induction rest generalizing out with
  | nil => simpa [escTok]
  | cons t r ih =>
    cases t with
    | s => simp only [escTok]; exact ih _ (Qt_snoc_plain _ _)
    | e => simp only [escTok]; exact ih _ (Qt_snoc_plain _ _)
    | b x =>
      simp only [escTok]
      split
      · apply ih
        intro m _ _
        exact dangT_snoc_lf_s _
      · exact ih _ (Qt_snoc_plain _ _)

theorem goodT_of_Qt (R : List Tok) (hq : Qt R) (hd : dangT R = false) : goodT R = true := by
  cases hl : R.getLast? with
  | none =>
    have : R = [] := by simpa using hl
    subst this; decide
  | some m =>
    cases hm : m.isMarker with
    | true => exact hq m hl hm
    | false =>
      have := eq_dropLast_append_of_getLast hl
      cases m with
      | s => simp [Tok.isMarker] at hm
      | e => simp [Tok.isMarker] at hm
      | b x => rw [this, goodT_snoc_plain, ← this, hd]; rfl

/-- The validated prefix produced by `escapeToEnd` (escape plus tail test):
its tokens are the token-level specification (plus `?` after a bad tail) and
its end is solid. -/
theorem escapeBytesAt_spec (buf : List Byte) (vu : Nat) (nl : Bool)
    (hg : goodT (tokenize (buf.take vu)) = true) :
    let E := escapeBytesAt buf vu nl false
    let R := escTok nl (tokenize (buf.take vu)) (tokenize (buf.drop vu))
    tokenize E = (if tailBad buf then R ++ [.b 0x3F] else R) ∧ goodT (tokenize E) = true := by
  intro E R
  have hns := not_straddles_of_goodT (buf.take vu) (buf.drop vu) hg
  have href := escGo_refines nl (buf.take vu) (buf.drop vu) hns
  have hE : E = (if tailBad buf then escGo nl (buf.take vu) (buf.drop vu) ++ escB else escGo nl (buf.take vu) (buf.drop vu)) := by
    simp [E, escapeBytesAt]
  have hQ : Qt R := Qt_escTok nl _ _ (fun m _ _ => hg)
  by_cases htb : tailBad buf = true
  · simp only [htb, if_true] at hE ⊢
    have : tokenize E = R ++ [.b 0x3F] := by
      rw [hE, escB, tokenize_snoc _ _ (by simp), href]
    refine ⟨this, ?_⟩
    rw [this, goodT_snoc_plain, dangT_snoc_q]; rfl
  · have htb' : tailBad buf = false := by simpa using htb
    simp only [htb', Bool.false_eq_true, if_false] at hE ⊢
    have : tokenize E = R := by rw [hE, href]
    refine ⟨this, ?_⟩
    rw [this]
    apply goodT_of_Qt R hQ
    -- a dangling end would have triggered the tail test
    cases hd : dangT R with
    | false => rfl
    | true =>
      exfalso
      have h1 : dangB (escGo nl (buf.take vu) (buf.drop vu)) = true := by
        apply dangB_of_dangT; rw [href]; exact hd
      have h2 := dangB_escGo nl _ _ h1
      rw [List.take_append_drop] at h2
      have := tailBad_of_dangB buf h2
      rw [htb'] at this
      exact Bool.false_ne_true this

/-- General append law: tokenisation splits at any boundary that no marker straddles. -/
theorem tokenize_append_of_not_straddles (a b : List Byte) (h : straddles a b = false) :
    tokenize (a ++ b) = tokenize a ++ tokenize b := by
  fun_induction tokenize b generalizing a with
  | case1 r ih =>
    have := tokenize_append_start a r
    simpa [startB] using this
  | case2 r ih =>
    have := tokenize_append_end a r
    simpa [endB] using this
  | case3 x r h1 h2 ih =>
    have e : a ++ x :: r = (a ++ [x]) ++ r := by simp
    rw [e, ih (a ++ [x]) (straddles_step a x r h h1 h2), tokenize_snoc a x (snoc_ok_of_not_straddles a x r h)]
    simp
  | case4 => simp

end Redact
