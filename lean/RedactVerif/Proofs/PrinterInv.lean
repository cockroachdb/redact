import RedactVerif.Proofs.PrinterBasics
import RedactVerif.Proofs.Sim
/-
The frame theorem for the whole printer model (`spec_all`): every function of
`Model/Printer.lean`, at every fuel, preserves the buffer invariant and returns
with the mode and the override it was entered with (doPrint/doPrintf: with an
escaping mode and the same override). An instance of the fundamental lemma
(`Proofs/Sim.lean`) for one run: the frame `frame`.
-/
namespace Redact

def GS (p : PP) : SRes → Prop
  | .ok q => G p q
  | .raised q pl => G p q ∧ ValOk pl
  | .abort r => GR p r

def D (p : PP) (r : Res) : Prop :=
  (∀ q, r = .ok q → Inv q.buf ∧ q.buf.mode ≠ .raw ∧ q.override = p.override) ∧
  (∀ b pl, r = .panic b pl → Inv b ∧ ValOk pl)

theorem GR_congr {p p1 : PP} {r : Res} (hb : p1.buf = p.buf) (ho : p1.override = p.override) (h : GR p1 r) : GR p r := by
  refine ⟨fun q hq => ?_, h.2⟩
  have g := h.1 q hq
  exact ⟨g.1, by rw [g.2.1, hb], by rw [g.2.2, ho]⟩

theorem Pre_congr {p p1 : PP} (hb : p1.buf = p.buf) (hp : Pre p) : Pre p1 := by
  unfold Pre; rw [hb]; exact hp

theorem GR_panic (p : PP) {b : Buffer} {pl : Val} (hi : Inv b) (hv : ValOk pl) : GR p (.panic b pl) :=
  ⟨fun q hq => (by cases hq), fun b' pl' hq => (by cases hq; exact ⟨hi, hv⟩)⟩

theorem GR_from {p p1 : PP} {r : Res} (g : G p p1) (h : GR p1 r) : GR p r :=
  ⟨fun q hq => G.trans g (h.1 q hq), h.2⟩

structure Spec (env : Env) (n : Nat) : Prop where
  printArg : ∀ p v verb, Pre p → ValOk v → GR p (printArg env n p v verb)
  printArgBody : ∀ p v verb, Pre p → ValOk v → GR p (printArgBody env n p v verb)
  badVerb : ∀ p v verb via, Pre p → ValOk v → GR p (badVerb env n p v verb via)
  handleMethods : ∀ p v verb, Pre p → ValOk v → GR p (handleMethods env n p v verb).2
  methDispatch : ∀ p v ms nr ret sc verb, Pre p → ValOk v → ScriptOk sc → GR p (methDispatch env n p v ms nr ret sc verb).2
  fmtString : ∀ p v ret verb, Pre p → ValOk v → GR p (fmtString env n p v ret verb)
  catchPanic : ∀ p0 p arg verb m nr out, Pre p → GS p out → GR p (catchPanic env n p0 arg verb m nr out)
  runScript : ∀ p sc, Pre p → ScriptOk sc → GS p (runScript env n p sc)
  printValue : ∀ p v verb d ro, Pre p → ValOk v → GR p (printValue env n p v verb d ro)
  printSlot : ∀ p v verb d i ro, Pre p → ValOk v → GR p (printSlot env n p v verb d i ro)
  slotMethods : ∀ p v verb, Pre p → ValOk v → GR p (slotMethods env n p v verb).2
  printFields : ∀ p fs verb d ro f, Pre p → FieldsOk fs → GR p (printFields env n p fs verb d ro f)
  printElems : ∀ p vs verb d i ro f, Pre p → ValsOk vs → GR p (printElems env n p vs verb d i ro f)
  printPairs : ∀ p ks vs verb d ik iv ro f, Pre p → ValsOk ks → ValsOk vs → GR p (printPairs env n p ks vs verb d ik iv ro f)
  doPrint : ∀ p args, Pre p → ListOk args → D p (doPrint env n p args)
  doPrintLoop : ∀ p args k ps, Pre p → ListOk args → GR p (doPrintLoop env n p args k ps)
  doPrintf : ∀ p f args, Pre p → ListOk args → D p (doPrintf env n p f args)
  fmtLoop : ∀ p f args k ai, Pre p → ListOk args → GR p (fmtLoop env n p f args k ai)
  directiveTail : ∀ p f args k ai, Pre p → ListOk args → GR p (directiveTail env n p f args k ai)
  finishPrintf : ∀ p args k, Pre p → ListOk args → GR p (finishPrintf env n p args k)
  extraLoop : ∀ p args f, Pre p → ListOk args → GR p (extraLoop env n p args f)

theorem valOk_safeW {v : Val} (h : ValOk (.safeW v)) : ValOk v := by simpa [ValOk] using h
theorem valOk_unsafeW {v : Val} (h : ValOk (.unsafeW v)) : ValOk v := by simpa [ValOk] using h

theorem GS_raised_nil {p : PP} (hp : Pre p) : GS p (.raised p .nil) := ⟨G.refl hp, by simp [ValOk]⟩

theorem GS_ite_nil {p : PP} (hp : Pre p) (nr : Bool) (out : SRes) (h : GS p out) :
    GS p (if nr then .raised p .nil else out) := by
  split
  · exact GS_raised_nil hp
  · exact h

theorem GR_ite {p : PP} {c : Prop} [Decidable c] {a b : Res} (ha : GR p a) (hb : GR p b) : GR p (if c then a else b) := by
  split <;> assumption

theorem listOk_get {args : List Val} (ha : ListOk args) {k : Nat} {a : Val} (h : args[k]? = some a) : ValOk a := by
  have : a ∈ args := List.mem_of_getElem? h
  exact ha a this

theorem listOk_drop {args : List Val} (ha : ListOk args) (k : Nat) : ListOk (args.drop k) :=
  fun v hv => ha v (List.mem_of_mem_drop hv)

theorem start_ok {start : PP → PP × PP.Restorer} (hs : IsStart start) {p : PP} (hp : Pre p) :
    Pre (start p).1 ∧ (start p).2 = ⟨p.buf.mode, p.override⟩ := by
  cases hs
  · exact start_safeOverride hp
  · exact start_unsafeOverride hp
  · exact start_unsafe hp

theorem Pre_setSafe {p : PP} (hp : Pre p) : Pre p.setSafe := by
  unfold PP.setSafe
  split
  · exact ⟨inv_setMode _ _ hp.1, by simp [setMode_mode]⟩
  · exact hp

/-- The operands of the frame theorems: no unfinished redactable anywhere (`ValOk`), and an error hook that returns such scripts. -/
def okOperands (env : Env) (he : EnvOk env) : Operands Unit env where
  toFormats := .any
  val _ := ValOk
  vals _ := ValsOk
  fields _ := FieldsOk
  script _ := ScriptOk
  meths _ _ _ := True
  leaf _ _ := True
  enter _ i := i
  val_declared h _ := h
  meths_leaf _ := trivial
  val_nil := trivial
  val_safeW := valOk_safeW
  val_unsafeW := valOk_unsafeW
  val_leaf _ := ⟨trivial, trivial⟩
  val_meth h := ⟨trivial, h⟩
  val_slice h := ⟨trivial, h⟩
  val_map h := ⟨trivial, h⟩
  val_struct h := ⟨trivial, h⟩
  val_ptrTo h := h
  val_redactable h := ⟨⟨h, trivial⟩, trivial⟩
  val_typeName _ := ⟨trivial, fun _ => trivial⟩
  vals_cons h := h
  fields_cons h := ⟨trivial, h⟩
  script_safeString h := ⟨trivial, h⟩
  script_unsafeString h := ⟨trivial, h⟩
  script_safeRune h := h
  script_write h := ⟨trivial, h⟩
  script_unsafeLeaf h := ⟨trivial, h⟩
  script_print h := h
  script_printf h := ⟨trivial, h⟩
  script_indep h := h
  script_panic h := h
  hook hh _ := he _ hh _
  render _ := trivial

def frame (env : Env) (he : EnvOk env) : Frame env where
  toOperands := okOperands env he
  Pre := Pre
  G := G
  D p q := Inv q.buf ∧ q.buf.mode ≠ .raw ∧ q.override = p.override
  B _ b := Inv b
  refl := G.refl
  trans := G.trans
  pre := G.pre
  B_trans _ h := h
  B_of_G g := g.1
  w hp _ := G_w hp _
  wb hp _ := G_wb hp _
  wr _ hp := G_wr hp _
  setF _ hp := G_same hp rfl rfl
  setPanicking _ hp := G_same hp rfl rfl
  setWrapped _ _ hp _ := G_same hp rfl rfl
  setWrappedErr _ hp _ := G_same hp rfl rfl
  setReordered _ hp := G_same hp rfl rfl
  setGood _ hp := G_same hp rfl rfl
  err_enter hp := hp
  err_exit _ g := g
  start_in hs hp := (start_ok hs hp).1
  start_out hs hp g := by rw [(start_ok hs hp).2]; exact ⟨inv_setMode _ _ g.1, setMode_mode _ _, rfl⟩
  start_pn _ _ hb := inv_setMode _ _ hb
  redactable hp hc := (GR_preRedactable _ _ hp hc).1 _ (by simp [bracket])
  nested_in hp := hp
  nested_out _ g := ⟨inv_setMode _ _ g.1, setMode_mode _ _, rfl⟩
  nested_pn _ hb := ⟨inv_setMode _ _ hb, setMode_mode _ _, rfl⟩
  setSafe_in := Pre_setSafe
  setSafe_out hp g := ⟨g.1, by rw [g.2.1]; exact (Pre_setSafe hp).2, by rw [g.2.2]; unfold PP.setSafe; split <;> rfl⟩
  setSafe_pn _ h := h

section
variable {env : Env} {he : EnvOk env} {p : PP}

theorem GR_of_ok {r : Res} (h : (frame env he).OkR p r) : GR p r :=
  ⟨fun _ hq => (hq ▸ h).ok, fun _ _ hq => (hq ▸ h).panic⟩

theorem D_of_ok {r : Res} (h : (frame env he).OkD p r) : D p r :=
  ⟨fun _ hq => (hq ▸ h).ok, fun _ _ hq => (hq ▸ h).panic⟩

theorem GS_of_ok {out : SRes} (h : (frame env he).OkS p out) : GS p out := by
  cases out with
  | ok q => exact h.ok
  | raised q pl => exact h.raised
  | abort r => exact GR_of_ok h.abort

theorem ok_of_GS {out : SRes} (h : GS p out) : (frame env he).OkS p out :=
  .mk (fun _ e => by subst e; exact h) (fun _ _ e => by subst e; exact h) (fun _ e => by subst e; exact .mk h.1 h.2)

end

theorem spec_all (env : Env) (he : EnvOk env) : ∀ n, Spec env n := by
  intro n
  have S := (frame env he).spec_all (fun _ _ => trivial) n
  exact {
    printArg := fun p v verb hp hv => GR_of_ok (S.printArg p v verb hp hv trivial)
    printArgBody := fun p v verb hp hv => GR_of_ok (S.printArgBody p v verb hp hv trivial)
    badVerb := fun p v verb via hp hv => GR_of_ok (S.badVerb p v verb via hp hv)
    handleMethods := fun p v verb hp hv => GR_of_ok (S.handleMethods p v verb hp hv trivial)
    methDispatch := fun p v ms nr ret sc verb hp hv hsc => GR_of_ok (S.methDispatch p v ms nr ret sc verb hp hv trivial hsc)
    fmtString := fun p v ret verb hp hv => GR_of_ok (S.fmtString p v ret verb hp hv trivial)
    catchPanic := fun p0 p arg verb m nr out hp hout => GR_of_ok (S.catchPanic p p0 arg verb m nr out hp trivial (ok_of_GS hout))
    runScript := fun p sc hp hsc => GS_of_ok (S.runScript p sc hp hsc)
    printValue := fun p v verb d ro hp hv => GR_of_ok (S.printValue p v verb d ro hp hv trivial)
    printSlot := fun p v verb d i ro hp hv => GR_of_ok (S.printSlot p v verb d i ro hp hv trivial)
    slotMethods := fun p v verb hp hv => GR_of_ok (S.slotMethods p v verb hp hv trivial)
    printFields := fun p fs verb d ro f hp hfs => GR_of_ok (S.printFields p fs verb d ro f hp hfs trivial)
    printElems := fun p vs verb d i ro f hp hvs => GR_of_ok (S.printElems p vs verb d i ro f hp hvs trivial)
    printPairs := fun p ks vs verb d ik iv ro f hp hks hvs => GR_of_ok (S.printPairs p ks vs verb d ik iv ro f hp hks hvs trivial)
    doPrint := fun p args hp ha => D_of_ok (S.doPrint p args hp ha)
    doPrintLoop := fun p args k ps hp ha => GR_of_ok (S.doPrintLoop p args k ps hp ha)
    doPrintf := fun p f args hp ha => D_of_ok (S.doPrintf p f args hp trivial ha)
    fmtLoop := fun p f args k ai hp ha => GR_of_ok (S.fmtLoop p f args k ai hp trivial ha)
    directiveTail := fun p f args k ai hp ha => GR_of_ok (S.directiveTail p f args k ai hp trivial ha)
    finishPrintf := fun p args k hp ha => GR_of_ok (S.finishPrintf p args k hp ha)
    extraLoop := fun p args f hp ha => GR_of_ok (S.extraLoop p args f hp ha) }

end Redact
