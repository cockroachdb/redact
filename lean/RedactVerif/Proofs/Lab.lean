import RedactVerif.Proofs.Plain
/-
The labelled reading of a redactable: its bytes in order, each with the side it is on
(inside an envelope or outside). Two redactables have the same labelled reading exactly when
they differ by merging adjacent envelopes (`›‹` removed) and by empty envelopes — the notion of
agreement between the implementations in C09 and between the print routes in C16.
It determines the two readings of `Plain.lean` (stripped; outside envelopes).
-/
namespace Redact

abbrev LB := Byte × Bool   -- a byte and whether it is inside an envelope

def labFrom : Bool → List Tok → List LB
  | _, [] => []
  | _, .s :: r => labFrom true r
  | _, .e :: r => labFrom false r
  | o, .b x :: r => (x, o) :: labFrom o r

def labT (t : List Tok) : List LB := labFrom false t

/-- The envelope state after a token list (no well-formedness needed). -/
def openAfter : Bool → List Tok → Bool
  | o, [] => o
  | _, .s :: r => openAfter true r
  | _, .e :: r => openAfter false r
  | o, .b _ :: r => openAfter o r

theorem labFrom_append (o : Bool) (a b : List Tok) :
    labFrom o (a ++ b) = labFrom o a ++ labFrom (openAfter o a) b := by
  induction a generalizing o with
  | nil => rfl
  | cons t r ih => cases t <;> simp [labFrom, openAfter, ih]

theorem openAfter_of_scanFrom (o : Bool) (t : List Tok) (o' : Bool) (h : scanFrom o t = some o') : openAfter o t = o' := by
  induction t generalizing o with
  | nil => simpa [scanFrom, openAfter] using h
  | cons x r ih =>
    cases x with
    | s => cases o <;> simp_all [scanFrom, openAfter]
    | e => cases o <;> simp_all [scanFrom, openAfter]
    | b y =>
      cases o with
      | false => simp only [scanFrom] at h; simpa [openAfter] using ih _ h
      | true =>
        simp only [scanFrom] at h
        split at h
        · cases h
        · simpa [openAfter] using ih _ h

theorem openAfter_of_scan {t : List Tok} {o : Bool} (h : scan t = some o) : openAfter false t = o :=
  openAfter_of_scanFrom false t o h

theorem labT_append {t : List Tok} {o : Bool} (h : scan t = some o) (x : List Tok) :
    labT (t ++ x) = labT t ++ labFrom o x := by
  unfold labT; rw [labFrom_append, openAfter_of_scan h]

/-- A trailing marker changes the side of what follows, and there is nothing. -/
theorem labT_blind (t : List Tok) (m : Tok) (hm : m.isMarker = true) : labT (t ++ [m]) = labT t := by
  unfold labT
  rw [labFrom_append]
  cases m <;> simp_all [labFrom, Tok.isMarker]

/-- **Merging adjacent envelopes does not change the labelled reading.** -/
theorem labT_merge (a b : List Tok) (h : openAfter false a = true) : labT (a ++ [.e, .s] ++ b) = labT (a ++ b) := by
  unfold labT
  rw [List.append_assoc, labFrom_append, labFrom_append false a b, h]
  simp [labFrom]

/-- An empty envelope does not change it either. -/
theorem labT_empty_env (a b : List Tok) (h : openAfter false a = false) : labT (a ++ [.s, .e] ++ b) = labT (a ++ b) := by
  unfold labT
  rw [List.append_assoc, labFrom_append, labFrom_append false a b, h]
  simp [labFrom]

/-- The labelled reading determines the stripped one… -/
theorem stripT_of_lab (o : Bool) (t : List Tok) : stripT t = (labFrom o t).map (fun p => .b p.1) := by
  induction t generalizing o with
  | nil => rfl
  | cons x r ih => cases x <;> simp only [stripT, labFrom, List.map_cons] <;> first | exact ih _ | (congr 1; exact ih _)

/-- …and the text outside envelopes. -/
theorem safeText_of_lab (t : List Tok) :
    safeText (abs .closed t) = ((labFrom false t).filter (fun p => !p.2)).map (fun p => .b p.1) ∧
    safeText (abs .openEmpty t) = ((labFrom true t).filter (fun p => !p.2)).map (fun p => .b p.1) ∧
    safeText (abs .openFull t) = ((labFrom true t).filter (fun p => !p.2)).map (fun p => .b p.1) := by
  induction t with
  | nil => simp [abs, safeText, labFrom]
  | cons x r ih =>
    obtain ⟨i1, i2, i3⟩ := ih
    cases x with
    | s => simp [abs, absTok, stStep, safeText, labFrom, i2]
    | e => simp [abs, absTok, stStep, safeText, labFrom, i1]
    | b y => simp [abs, absTok, stStep, safeText, labFrom, i1, i3]

/-- Pending tokens in unsafe mode: markers become `?` inside, line feeds go outside, the rest inside. -/
def pendLabU : List Tok → List LB
  | [] => []
  | .s :: r => (0x3F, true) :: pendLabU r
  | .e :: r => (0x3F, true) :: pendLabU r
  | .b x :: r => (if x == LF then (LF, false) else (x, true)) :: pendLabU r

theorem pendLabU_append (a b : List Tok) : pendLabU (a ++ b) = pendLabU a ++ pendLabU b := by
  induction a with
  | nil => rfl
  | cons x r ih => cases x <;> simp [pendLabU, ih]

theorem labT_snoc_open (t : List Tok) (x : Byte) (h : scan t = some true) : labT (t ++ [.b x]) = labT t ++ [(x, true)] := by
  rw [labT_append h]; rfl

theorem lab_lf_step {out : List Tok} (h : scan out = some true) :
    labT ((if out.getLast? = some .s then out.dropLast else out ++ [.e]) ++ [.b LF, .s]) = labT out ++ [(LF, false)] := by
  rw [labT_append (scan_close h), blind_cancel labT_blind rfl rfl]
  rfl

theorem labT_escTok_open (out rest : List Tok) (h : scan out = some true) :
    labT (escTok true out rest) = labT out ++ pendLabU rest := by
  induction rest generalizing out with
  | nil => simp [escTok, pendLabU]
  | cons t r ih =>
    cases t with
    | s | e =>
      simp only [escTok, pendLabU]
      rw [ih _ (scan_snoc_content h (by decide)), labT_snoc_open _ _ h]; simp
    | b x =>
      by_cases hx : x = LF
      · subst hx
        simp only [escTok, pendLabU, Bool.true_and, beq_self_eq_true, if_true]
        rw [ih _ (scan_lf_step h), lab_lf_step h]
        simp
      · have hb : (x == LF) = false := by simpa using hx
        simp only [escTok, pendLabU, hb, Bool.and_false, Bool.false_eq_true, if_false]
        rw [ih _ (scan_snoc_content h hx), labT_snoc_open _ _ h]; simp

theorem openAfter_plain (o : Bool) (t : List Tok) (h : ∀ x ∈ t, x.isMarker = false) : openAfter o t = o := by
  induction t with
  | nil => rfl
  | cons x r ih =>
    cases x with
    | s => have := h .s (by simp); simp [Tok.isMarker] at this
    | e => have := h .e (by simp); simp [Tok.isMarker] at this
    | b y => simpa [openAfter] using ih (fun x hx => h x (by simp [hx]))

theorem labFrom_escT_append (a b : List Tok) : labFrom false (escT (a ++ b)) = labFrom false (escT a) ++ labFrom false (escT b) := by
  rw [escT_append, labFrom_append, openAfter_plain _ _ (escT_no_marker a)]

/-- What pending bytes will read as, labelled, once flushed in mode `m`. -/
def pendLab (m : Mode) (s : List Byte) : List LB :=
  if m = .raw then labT (tokenize s) else if m = .unsafeEsc then pendLabU (tokenize s) else labT (escT (tokenize s))

def LR (b : Buffer) (lacc : List LB) : Prop := labT (tokenize b.pre) ++ pendLab b.mode b.suf = lacc

theorem pendLab_nil (m : Mode) : pendLab m [] = [] := by cases m <;> rfl

/-- The labelled reading (`LR b lacc` is `labRd.rd b = lacc`). -/
def labRd : Reading LB where
  R := labT
  P m t := if m = .raw then labT t else if m = .unsafeEsc then pendLabU t else labT (escT t)
  blind := labT_blind
  esc_unsafe out rest h := labT_escTok_open out rest h
  esc_safe out rest h := labT_append h (escT rest)
  raw out s h _ := labT_append h s
  P_nil m := by cases m <;> rfl
  P_append m a c h := by
    cases m
    · exact pendLabU_append a c
    · exact labFrom_escT_append a c
    · exact labT_append (h rfl) c

theorem finalize_L (b : Buffer) (acc dacc : List Tok) (lacc : List LB) (k : KInv b acc dacc) (l : LR b lacc) :
    labT (tokenize b.finalize.buf) = lacc :=
  (labRd.R_finalize k).trans l

theorem setMode_L (b : Buffer) (m : Mode) (acc dacc : List Tok) (lacc : List LB) (k : KInv b acc dacc) (l : LR b lacc) :
    LR (b.setMode m) lacc :=
  (labRd.rd_setMode k m).trans l

theorem write_L (b : Buffer) (p : List Byte) (acc dacc : List Tok) (lacc : List LB) (k : KInv b acc dacc) (l : LR b lacc) :
    LR (b.write p) (lacc ++ pendLab b.mode p) := by
  rw [← l]; exact labRd.rd_write k p

end Redact
