import RedactVerif.Proofs.EqW
/-
The frame of the capture bit: under a verb other than `w` every function of the printer leaves `wrapErrs` and
`wrappedErr` as it found them (`capFrame`: the two fields are assigned only under the verb `w`; the fundamental lemma
of Proofs/Sim.lean for one run). `ESpec` says the same of two runs: a printer with the two fields set to given values
`xa`, `xb` does what the printer does and keeps the values — `EqW.espec_all` and the frame together. With `xa`, `xb` the
printer's own fields this is the one-run statement; hence `HelperForErrorf` returns no error for a format without a
`%w` directive.
-/
namespace Redact.EqF
open Redact.EqW (NoW setW)

variable {xa : Bool} {xb : Option Nat}


/-- The second printer is the first with `wrapErrs := xa`, `wrappedErr := xb`. -/
structure Eqv (xa : Bool) (xb : Option Nat) (p p' : PP) : Prop where
  buf : p'.buf = p.buf
  override : p'.override = p.override
  f : p'.f = p.f
  erroring : p'.erroring = p.erroring
  panicking : p'.panicking = p.panicking
  reordered : p'.reordered = p.reordered
  goodArgNum : p'.goodArgNum = p.goodArgNum
  we : p'.wrapErrs = xa
  wd : p'.wrappedErr = xb

inductive RelR (xa : Bool) (xb : Option Nat) : Res → Res → Prop
  | ok {q q' : PP} : Eqv xa xb q q' → RelR xa xb (.ok q) (.ok q')
  | panic (b : Buffer) (pl : Val) : RelR xa xb (.panic b pl) (.panic b pl)
  | fuel : RelR xa xb .fuel .fuel
  | unsupported : RelR xa xb .unsupported .unsupported

inductive RelS (xa : Bool) (xb : Option Nat) : SRes → SRes → Prop
  | ok {q q' : PP} : Eqv xa xb q q' → RelS xa xb (.ok q) (.ok q')
  | raised {q q' : PP} (pl : Val) : Eqv xa xb q q' → RelS xa xb (.raised q pl) (.raised q' pl)
  | abort {r r' : Res} : RelR xa xb r r' → RelS xa xb (.abort r) (.abort r')

structure RelH (xa : Bool) (xb : Option Nat) (a a' : Bool × Res) : Prop where
  fst : a'.1 = a.1
  snd : RelR xa xb a.2 a'.2

theorem Eqv.setF {p p' : PP} (h : Eqv xa xb p p') (g : FmtS) : Eqv xa xb { p with f := g } { p' with f := g } :=
  ⟨h.buf, h.override, rfl, h.erroring, h.panicking, h.reordered, h.goodArgNum, h.we, h.wd⟩
theorem Eqv.setPanicking {p p' : PP} (h : Eqv xa xb p p') (e : Bool) : Eqv xa xb { p with panicking := e } { p' with panicking := e } :=
  ⟨h.buf, h.override, h.f, h.erroring, rfl, h.reordered, h.goodArgNum, h.we, h.wd⟩
theorem Eqv.setGood {p p' : PP} (h : Eqv xa xb p p') (e : Bool) : Eqv xa xb { p with goodArgNum := e } { p' with goodArgNum := e } :=
  ⟨h.buf, h.override, h.f, h.erroring, h.panicking, h.reordered, rfl, h.we, h.wd⟩
theorem Eqv.setBuf {p p' : PP} (h : Eqv xa xb p p') (b : Buffer) : Eqv xa xb { p with buf := b } { p' with buf := b } :=
  ⟨rfl, h.override, h.f, h.erroring, h.panicking, h.reordered, h.goodArgNum, h.we, h.wd⟩
/-- The nested printer of `SafePrinter.Print/Printf`: a fresh printer sharing buffer and override. -/
theorem Eqv.nested {p p' : PP} (h : Eqv xa xb p p') :
    ({ buf := p'.buf, override := p'.override } : PP) = { buf := p.buf, override := p.override } := by
  rw [h.buf, h.override]

theorem Eqv.restore {q q' : PP} (h : Eqv xa xb q q') (r : PP.Restorer) : Eqv xa xb (q.restore r) (q'.restore r) :=
  ⟨by simp [PP.restore, h.buf], rfl, h.f, h.erroring, h.panicking, h.reordered, h.goodArgNum, h.we, h.wd⟩

theorem eqv_setW (p : PP) : Eqv xa xb p (setW p xa xb) := ⟨rfl, rfl, rfl, rfl, rfl, rfl, rfl, rfl, rfl⟩

structure ESpec (xa : Bool) (xb : Option Nat) (env : Env) (n : Nat) : Prop where
  printArg : ∀ p p' v verb, Eqv xa xb p p' → verb ≠ 119 → RelR xa xb (printArg env n p v verb) (printArg env n p' v verb)
  printArgBody : ∀ p p' v verb, Eqv xa xb p p' → verb ≠ 119 → RelR xa xb (printArgBody env n p v verb) (printArgBody env n p' v verb)
  badVerb : ∀ p p' v verb via, Eqv xa xb p p' → verb ≠ 119 → RelR xa xb (badVerb env n p v verb via) (badVerb env n p' v verb via)
  handleMethods : ∀ p p' v verb, Eqv xa xb p p' → verb ≠ 119 → RelH xa xb (handleMethods env n p v verb) (handleMethods env n p' v verb)
  methDispatch : ∀ p p' v ms nr ret sc verb, Eqv xa xb p p' → verb ≠ 119 →
    RelH xa xb (methDispatch env n p v ms nr ret sc verb) (methDispatch env n p' v ms nr ret sc verb)
  fmtString : ∀ p p' v ret verb, Eqv xa xb p p' → verb ≠ 119 → RelR xa xb (fmtString env n p v ret verb) (fmtString env n p' v ret verb)
  catchPanic : ∀ (p0 p0' : PP) (arg : Val) (verb : Nat) (m : List Byte) (nr : Bool) (out out' : SRes), RelS xa xb out out' → verb ≠ 119 →
    RelR xa xb (catchPanic env n p0 arg verb m nr out) (catchPanic env n p0' arg verb m nr out')
  runScript : ∀ p p' sc, Eqv xa xb p p' → RelS xa xb (runScript env n p sc) (runScript env n p' sc)
  printValue : ∀ p p' v verb d ro, Eqv xa xb p p' → verb ≠ 119 → RelR xa xb (printValue env n p v verb d ro) (printValue env n p' v verb d ro)
  printSlot : ∀ p p' v verb d i ro, Eqv xa xb p p' → verb ≠ 119 → RelR xa xb (printSlot env n p v verb d i ro) (printSlot env n p' v verb d i ro)
  slotMethods : ∀ p p' v verb, Eqv xa xb p p' → verb ≠ 119 → RelH xa xb (slotMethods env n p v verb) (slotMethods env n p' v verb)
  printFields : ∀ p p' fs verb d ro f, Eqv xa xb p p' → verb ≠ 119 → RelR xa xb (printFields env n p fs verb d ro f) (printFields env n p' fs verb d ro f)
  printElems : ∀ p p' vs verb d i ro f, Eqv xa xb p p' → verb ≠ 119 → RelR xa xb (printElems env n p vs verb d i ro f) (printElems env n p' vs verb d i ro f)
  printPairs : ∀ p p' ks vs verb d ik iv ro f, Eqv xa xb p p' → verb ≠ 119 →
    RelR xa xb (printPairs env n p ks vs verb d ik iv ro f) (printPairs env n p' ks vs verb d ik iv ro f)
  doPrint : ∀ p p' args, Eqv xa xb p p' → RelR xa xb (doPrint env n p args) (doPrint env n p' args)
  doPrintLoop : ∀ p p' args k ps, Eqv xa xb p p' → RelR xa xb (doPrintLoop env n p args k ps) (doPrintLoop env n p' args k ps)
  doPrintf : ∀ p p' f args, Eqv xa xb p p' → NoW f → RelR xa xb (doPrintf env n p f args) (doPrintf env n p' f args)
  fmtLoop : ∀ p p' f args k ai, Eqv xa xb p p' → NoW f → RelR xa xb (fmtLoop env n p f args k ai) (fmtLoop env n p' f args k ai)
  directiveTail : ∀ p p' f args k ai, Eqv xa xb p p' → NoW f →
    RelR xa xb (directiveTail env n p f args k ai) (directiveTail env n p' f args k ai)
  finishPrintf : ∀ p p' args k, Eqv xa xb p p' → RelR xa xb (finishPrintf env n p args k) (finishPrintf env n p' args k)
  extraLoop : ∀ p p' args f, Eqv xa xb p p' → RelR xa xb (extraLoop env n p args f) (extraLoop env n p' args f)


/-- `wrapErrs` and `wrappedErr` are left as they were: they are assigned only where the verb is `w`. -/
def capFrame (env : Env) : Frame env where
  toOperands := (EqW.eqvLogic env).toOperands
  Pre _ := True
  G p q := q.wrapErrs = p.wrapErrs ∧ q.wrappedErr = p.wrappedErr
  -- a nested printer may capture (its format is not constrained); what it returns is handed back as a buffer only
  D _ _ := True
  B _ _ := True
  refl _ := ⟨rfl, rfl⟩
  trans h1 h2 := ⟨h2.1.trans h1.1, h2.2.trans h1.2⟩
  pre _ _ := trivial
  B_trans _ _ := trivial
  B_of_G _ := trivial
  w _ _ := ⟨rfl, rfl⟩
  wb _ _ := ⟨rfl, rfl⟩
  wr _ _ := ⟨rfl, rfl⟩
  setF _ _ := ⟨rfl, rfl⟩
  setPanicking _ _ := ⟨rfl, rfl⟩
  setWrapped _ _ _ h := absurd rfl h
  setWrappedErr _ _ h := absurd rfl h
  setReordered _ _ := ⟨rfl, rfl⟩
  setGood _ _ := ⟨rfl, rfl⟩
  err_enter _ := trivial
  err_exit _ g := g
  start_in _ _ := trivial
  start_out := @fun start p q hs _ g => by
    have e : ∀ x : PP, (start x).1.wrapErrs = x.wrapErrs ∧ (start x).1.wrappedErr = x.wrappedErr := by
      cases hs <;> intro x <;> simp only [PP.startSafeOverride, PP.startUnsafeOverride, PP.startUnsafe] <;> split <;> exact ⟨rfl, rfl⟩
    exact ⟨g.1.trans (e p).1, g.2.trans (e p).2⟩
  start_pn _ _ _ := trivial
  redactable := @fun p _ _ _ _ => by unfold PP.startPreRedactable; split <;> exact ⟨rfl, rfl⟩
  nested_in _ := trivial
  nested_out _ _ := ⟨rfl, rfl⟩
  nested_pn _ _ := ⟨rfl, rfl⟩
  setSafe_in _ := trivial
  setSafe_out _ _ := trivial
  setSafe_pn _ _ := trivial

theorem setSafe_capture (p : PP) : (p.setSafe.wrapErrs = xa ∧ p.setSafe.wrappedErr = xb) = (p.wrapErrs = xa ∧ p.wrappedErr = xb) := by
  unfold PP.setSafe; split <;> rfl

/-- The frame at every fuel; nothing needs to be known of a nested `Printf`. -/
theorem capSpec (env : Env) (n : Nat) : (capFrame env).Spec n :=
  (capFrame env).spec_all_of (fun _ _ _ _ _ _ _ => by
    generalize doPrintf env _ _ _ _ = r
    cases r
    · exact Logic.RelD.ok ⟨rfl, trivial⟩
    · exact Logic.RelD.panic ⟨rfl, trivial⟩ trivial
    · exact Logic.RelD.fuel
    · exact Logic.RelD.unsupported) n

theorem eqW_of {p p' : PP} (h : Eqv xa xb p p') : EqW.Eqv p p' :=
  ⟨h.buf, h.override, h.f, h.erroring, h.panicking, h.reordered, h.goodArgNum⟩

section
variable {env : Env} {p' : PP}

/-- The first run and the second agree up to the two fields; the second keeps them. -/
theorem relR_of {r r' : Res} (hp : p'.wrapErrs = xa ∧ p'.wrappedErr = xb) (h : EqW.RelR r r') (hf : (capFrame env).OkR p' r') :
    RelR xa xb r r' := by
  cases h with
  | ok h =>
    have g := hf.ok
    exact .ok ⟨h.buf, h.override, h.f, h.erroring, h.panicking, h.reordered, h.goodArgNum, g.1.trans hp.1, g.2.trans hp.2⟩
  | panic b pl => exact .panic b pl
  | fuel => exact .fuel
  | unsupported => exact .unsupported

theorem relS_of {o o' : SRes} (hp : p'.wrapErrs = xa ∧ p'.wrappedErr = xb) (h : EqW.RelS o o') (hf : (capFrame env).OkS p' o') :
    RelS xa xb o o' := by
  cases h with
  | ok h =>
    have g := hf.ok
    exact .ok ⟨h.buf, h.override, h.f, h.erroring, h.panicking, h.reordered, h.goodArgNum, g.1.trans hp.1, g.2.trans hp.2⟩
  | raised pl h =>
    have g := hf.raised.1
    exact .raised pl ⟨h.buf, h.override, h.f, h.erroring, h.panicking, h.reordered, h.goodArgNum, g.1.trans hp.1, g.2.trans hp.2⟩
  | abort h => exact .abort (relR_of hp h hf.abort)

theorem relH_of {a a' : Bool × Res} (hp : p'.wrapErrs = xa ∧ p'.wrappedErr = xb) (h : EqW.RelH a a') (hf : (capFrame env).OkH p' a') :
    RelH xa xb a a' := ⟨h.fst, relR_of hp h.snd hf⟩

theorem eqW_relR {r r' : Res} (h : RelR xa xb r r') : EqW.RelR r r' := by
  cases h with
  | ok h => exact .ok (eqW_of h)
  | panic b pl => exact .panic b pl
  | fuel => exact .fuel
  | unsupported => exact .unsupported

/-- Outcomes related with the fields held at `xa`, `xb`: related up to the fields, and the second is within the frame of
any printer that holds these values. -/
theorem split_relS {o o' : SRes} (h : RelS xa xb o o') :
    EqW.RelS o o' ∧ (capFrame env).OkS (setW newPP xa xb) o' := by
  cases h with
  | ok h => exact ⟨.ok (eqW_of h), Logic.RelS.ok ⟨rfl, h.we, h.wd⟩⟩
  | raised pl h => exact ⟨.raised pl (eqW_of h), Logic.RelS.raised ⟨rfl, h.we, h.wd⟩ trivial⟩
  | abort h =>
    refine ⟨.abort (eqW_relR h), Logic.RelS.abort ?_⟩
    cases h with
    | ok h => exact Logic.RelR.ok ⟨rfl, h.we, h.wd⟩
    | panic b pl => exact Logic.RelR.panic ⟨rfl, trivial⟩ trivial
    | fuel => exact Logic.RelR.fuel
    | unsupported => exact Logic.RelR.unsupported

end

/-- **A printer with `wrapErrs`/`wrappedErr` set to given values does what the printer does, and keeps the values**,
under every verb but `w`, at every fuel. -/
theorem espec_all (env : Env) : ∀ n, ESpec xa xb env n := by
  intro n
  have W := EqW.espec_all env n
  have S := capSpec env
  have L : ∀ l, (capFrame env).list () l := fun _ _ _ => trivial
  exact {
    printArg := fun p p' v verb h hv =>
      relR_of ⟨h.we, h.wd⟩ (W.printArg p p' v verb (eqW_of h) hv) ((S n).printArg p' v verb trivial trivial hv)
    printArgBody := fun p p' v verb h hv =>
      relR_of ⟨h.we, h.wd⟩ (W.printArgBody p p' v verb (eqW_of h) hv) ((S n).printArgBody p' v verb trivial trivial hv)
    badVerb := fun p p' v verb via h hv =>
      relR_of ⟨h.we, h.wd⟩ (W.badVerb p p' v verb via (eqW_of h) hv) ((S n).badVerb p' v verb via trivial trivial)
    handleMethods := fun p p' v verb h hv =>
      relH_of ⟨h.we, h.wd⟩ (W.handleMethods p p' v verb (eqW_of h) hv) ((S n).handleMethods p' v verb trivial trivial hv)
    methDispatch := fun p p' v ms nr ret sc verb h hv =>
      relH_of ⟨h.we, h.wd⟩ (W.methDispatch p p' v ms nr ret sc verb (eqW_of h) hv) ((S n).methDispatch p' v ms nr ret sc verb trivial trivial trivial trivial)
    fmtString := fun p p' v ret verb h hv =>
      relR_of ⟨h.we, h.wd⟩ (W.fmtString p p' v ret verb (eqW_of h) hv) ((S n).fmtString p' v ret verb trivial trivial trivial)
    catchPanic := fun p0 p0' arg verb m nr out out' h hv =>
      have ⟨hw, hs⟩ := split_relS (env := env) h
      relR_of (p' := setW newPP xa xb) ⟨rfl, rfl⟩ (W.catchPanic p0 p0' arg verb m nr out out' hw hv)
        ((S n).catchPanic _ p0' arg verb m nr out' trivial trivial hs)
    runScript := fun p p' sc h => relS_of ⟨h.we, h.wd⟩ (W.runScript p p' sc (eqW_of h)) ((S n).runScript p' sc trivial trivial)
    printValue := fun p p' v verb d ro h hv =>
      relR_of ⟨h.we, h.wd⟩ (W.printValue p p' v verb d ro (eqW_of h) hv) ((S n).printValue p' v verb d ro trivial trivial hv)
    printSlot := fun p p' v verb d i ro h hv =>
      relR_of ⟨h.we, h.wd⟩ (W.printSlot p p' v verb d i ro (eqW_of h) hv) ((S n).printSlot p' v verb d i ro trivial trivial hv)
    slotMethods := fun p p' v verb h hv =>
      relH_of ⟨h.we, h.wd⟩ (W.slotMethods p p' v verb (eqW_of h) hv) ((S n).slotMethods p' v verb trivial trivial hv)
    printFields := fun p p' fs verb d ro f h hv =>
      relR_of ⟨h.we, h.wd⟩ (W.printFields p p' fs verb d ro f (eqW_of h) hv) ((S n).printFields p' fs verb d ro f trivial trivial hv)
    printElems := fun p p' vs verb d i ro f h hv =>
      relR_of ⟨h.we, h.wd⟩ (W.printElems p p' vs verb d i ro f (eqW_of h) hv) ((S n).printElems p' vs verb d i ro f trivial trivial hv)
    printPairs := fun p p' ks vs verb d ik iv ro f h hv =>
      relR_of ⟨h.we, h.wd⟩ (W.printPairs p p' ks vs verb d ik iv ro f (eqW_of h) hv)
        ((S n).printPairs p' ks vs verb d ik iv ro f trivial trivial trivial hv)
    -- `doPrint`/`doPrintf` are their loops after a prologue that leaves the two fields alone
    doPrint := fun p p' args h => by
      refine relR_of (env := env) (p' := p'.setSafe) (by rw [setSafe_capture]; exact ⟨h.we, h.wd⟩) (W.doPrint p p' args (eqW_of h)) ?_
      cases n with
      | zero => simp only [doPrint]; exact Logic.RelR.fuel
      | succ n => exact (S n).doPrint_loop trivial (L _)
    doPrintLoop := fun p p' args k ps h =>
      relR_of ⟨h.we, h.wd⟩ (W.doPrintLoop p p' args k ps (eqW_of h)) ((S n).doPrintLoop p' args k ps trivial (L _))
    doPrintf := fun p p' f args h hf => by
      refine relR_of (env := env) (p' := p'.setSafe) (by rw [setSafe_capture]; exact ⟨h.we, h.wd⟩) (W.doPrintf p p' f args (eqW_of h) hf) ?_
      cases n with
      | zero => simp only [doPrintf]; exact Logic.RelR.fuel
      | succ n => exact (S n).doPrintf_loop trivial hf (L _)
    fmtLoop := fun p p' f args k ai h hf =>
      relR_of ⟨h.we, h.wd⟩ (W.fmtLoop p p' f args k ai (eqW_of h) hf) ((S n).fmtLoop p' f args k ai trivial hf (L _))
    directiveTail := fun p p' f args k ai h hf =>
      relR_of ⟨h.we, h.wd⟩ (W.directiveTail p p' f args k ai (eqW_of h) hf) ((S n).directiveTail p' f args k ai trivial hf (L _))
    finishPrintf := fun p p' args k h =>
      relR_of ⟨h.we, h.wd⟩ (W.finishPrintf p p' args k (eqW_of h)) ((S n).finishPrintf p' args k trivial (L _))
    extraLoop := fun p p' args f h =>
      relR_of ⟨h.we, h.wd⟩ (W.extraLoop p p' args f (eqW_of h)) ((S n).extraLoop p' args f trivial (L _)) }

theorem eqv_self (p : PP) : Eqv p.wrapErrs p.wrappedErr p p := ⟨rfl, rfl, rfl, rfl, rfl, rfl, rfl, rfl, rfl⟩

theorem ok_of_rel {r : Res} {q : PP} (h : RelR xa xb r r) (hr : r = .ok q) : q.wrapErrs = xa ∧ q.wrappedErr = xb := by
  subst hr
  cases h with
  | ok hq => exact ⟨hq.we, hq.wd⟩

/-- **The frame of the capture bit**: an operand printed under a verb other than `w` leaves `wrapErrs` and
`wrappedErr` as they were. -/
theorem printArg_keeps_capture (env : Env) (n : Nat) (p : PP) (v : Val) (verb : Nat) (hv : verb ≠ 119) (q : PP)
    (h : printArg env n p v verb = .ok q) : q.wrapErrs = p.wrapErrs ∧ q.wrappedErr = p.wrappedErr :=
  ok_of_rel ((espec_all env n).printArg p p v verb (eqv_self p) hv) h

/-- … and so does a whole `Printf` whose format has no `%w` directive. -/
theorem doPrintf_keeps_capture (env : Env) (n : Nat) (p : PP) (f : List Byte) (args : List Val) (hf : NoW f) (q : PP)
    (h : doPrintf env n p f args = .ok q) : q.wrapErrs = p.wrapErrs ∧ q.wrappedErr = p.wrappedErr :=
  ok_of_rel ((espec_all env n).doPrintf p p f args (eqv_self p) hf) h

end Redact.EqF
