import RedactVerif.Proofs.Sim
/-
The two fields a recycled printer may carry over from its previous call, `reordered` and
`goodArgNum`, are read only by the `doPrintf` family, which sets them first. Here: every function
reachable from `doPrint` (Sprint, Fprint, nested Print) computes the same — same buffer, same
everything else — whatever these two fields hold: the first half of the fundamental lemma
(`Proofs/Sim.lean`) for the relation `Eqv`. A method's nested `Printf` runs on a fresh printer, the
same in both runs, so the `doPrintf` family is not needed.
-/
namespace Redact

/-- Equal up to `reordered` and `goodArgNum`. -/
structure Eqv (p p' : PP) : Prop where
  buf : p'.buf = p.buf
  override : p'.override = p.override
  f : p'.f = p.f
  erroring : p'.erroring = p.erroring
  panicking : p'.panicking = p.panicking
  wrapErrs : p'.wrapErrs = p.wrapErrs
  wrappedErr : p'.wrappedErr = p.wrappedErr

theorem Eqv.refl (p : PP) : Eqv p p := ⟨rfl, rfl, rfl, rfl, rfl, rfl, rfl⟩

inductive RelR : Res → Res → Prop
  | ok {q q' : PP} : Eqv q q' → RelR (.ok q) (.ok q')
  | panic (b : Buffer) (pl : Val) : RelR (.panic b pl) (.panic b pl)
  | fuel : RelR .fuel .fuel
  | unsupported : RelR .unsupported .unsupported

inductive RelS : SRes → SRes → Prop
  | ok {q q' : PP} : Eqv q q' → RelS (.ok q) (.ok q')
  | raised {q q' : PP} (pl : Val) : Eqv q q' → RelS (.raised q pl) (.raised q' pl)
  | abort {r r' : Res} : RelR r r' → RelS (.abort r) (.abort r')

structure RelH (a a' : Bool × Res) : Prop where
  fst : a'.1 = a.1
  snd : RelR a.2 a'.2

theorem RelR.refl (r : Res) : RelR r r := by
  cases r
  · exact .ok (Eqv.refl _)
  · exact .panic _ _
  · exact .fuel
  · exact .unsupported
theorem RelS.refl (r : SRes) : RelS r r := by
  cases r
  · exact .ok (Eqv.refl _)
  · exact .raised _ (Eqv.refl _)
  · exact .abort (RelR.refl _)

theorem Eqv.w {p p' : PP} (h : Eqv p p') (s : List Byte) : Eqv (p.w s) (p'.w s) :=
  ⟨by simp [PP.w, h.buf], h.override, h.f, h.erroring, h.panicking, h.wrapErrs, h.wrappedErr⟩
theorem Eqv.wb {p p' : PP} (h : Eqv p p') (c : Byte) : Eqv (p.wb c) (p'.wb c) :=
  ⟨by simp [PP.wb, h.buf], h.override, h.f, h.erroring, h.panicking, h.wrapErrs, h.wrappedErr⟩
theorem Eqv.wr {p p' : PP} (h : Eqv p p') (r : Int) : Eqv (p.wr r) (p'.wr r) :=
  ⟨by simp [PP.wr, h.buf], h.override, h.f, h.erroring, h.panicking, h.wrapErrs, h.wrappedErr⟩

theorem Eqv.setErroring {p p' : PP} (h : Eqv p p') (e : Bool) : Eqv { p with erroring := e } { p' with erroring := e } :=
  ⟨h.buf, h.override, h.f, rfl, h.panicking, h.wrapErrs, h.wrappedErr⟩
theorem Eqv.setF {p p' : PP} (h : Eqv p p') (g : FmtS) : Eqv { p with f := g } { p' with f := g } :=
  ⟨h.buf, h.override, rfl, h.erroring, h.panicking, h.wrapErrs, h.wrappedErr⟩
theorem Eqv.setPanicking {p p' : PP} (h : Eqv p p') (e : Bool) : Eqv { p with panicking := e } { p' with panicking := e } :=
  ⟨h.buf, h.override, h.f, h.erroring, rfl, h.wrapErrs, h.wrappedErr⟩
theorem Eqv.setWrapped {p p' : PP} (h : Eqv p p') (w : Option Nat) (e : Bool) :
    Eqv { p with wrappedErr := w, wrapErrs := e } { p' with wrappedErr := w, wrapErrs := e } :=
  ⟨h.buf, h.override, h.f, h.erroring, h.panicking, rfl, rfl⟩
theorem Eqv.setWrappedErr {p p' : PP} (h : Eqv p p') (w : Option Nat) :
    Eqv { p with wrappedErr := w } { p' with wrappedErr := w } :=
  ⟨h.buf, h.override, h.f, h.erroring, h.panicking, h.wrapErrs, rfl⟩
theorem Eqv.setBuf {p p' : PP} (h : Eqv p p') (b : Buffer) : Eqv { p with buf := b } { p' with buf := b } :=
  ⟨rfl, h.override, h.f, h.erroring, h.panicking, h.wrapErrs, h.wrappedErr⟩
/-- The nested printer of `SafePrinter.Print/Printf`: a fresh printer sharing buffer and override. -/
theorem Eqv.nested {p p' : PP} (h : Eqv p p') :
    ({ buf := p'.buf, override := p'.override } : PP) = { buf := p.buf, override := p.override } := by
  rw [h.buf, h.override]

structure StartEqv (start : PP → PP × PP.Restorer) : Prop where
  st : ∀ p p', Eqv p p' → Eqv (start p).1 (start p').1 ∧ (start p').2 = (start p).2

theorem Eqv.restore {q q' : PP} (h : Eqv q q') (r : PP.Restorer) : Eqv (q.restore r) (q'.restore r) :=
  ⟨by simp [PP.restore, h.buf], rfl, h.f, h.erroring, h.panicking, h.wrapErrs, h.wrappedErr⟩

/-- Every `start*()` is a guarded switch of mode and override that remembers what it replaced. -/
theorem StartEqv.guarded (c : Override → Prop) [DecidablePred c] (m : Mode) (o : Override → Override)
    {start : PP → PP × PP.Restorer}
    (hs : ∀ p, start p = (if c p.override then { p with buf := p.buf.setMode m, override := o p.override } else p,
      ⟨p.buf.mode, p.override⟩)) : StartEqv start := by
  refine ⟨fun p p' h => ?_⟩
  rw [hs, hs, h.override, h.buf]
  refine ⟨?_, rfl⟩
  split
  · exact ⟨rfl, rfl, h.f, h.erroring, h.panicking, h.wrapErrs, h.wrappedErr⟩
  · exact h

theorem startEqv_safeOverride : StartEqv PP.startSafeOverride := .guarded (· = .no) .safeEsc (fun _ => .ovSafe) fun _ => rfl
theorem startEqv_unsafeOverride : StartEqv PP.startUnsafeOverride := .guarded (· = .no) .unsafeEsc (fun _ => .ovUnsafe) fun _ => rfl
theorem startEqv_unsafe : StartEqv PP.startUnsafe := .guarded (· ≠ .ovSafe) .unsafeEsc id fun _ => rfl
theorem startEqv_preRedactable : StartEqv PP.startPreRedactable := .guarded (· ≠ .ovUnsafe) .raw id fun _ => rfl

structure ESpec (env : Env) (n : Nat) : Prop where
  printArg : ∀ p p' v verb, Eqv p p' → RelR (printArg env n p v verb) (printArg env n p' v verb)
  printArgBody : ∀ p p' v verb, Eqv p p' → RelR (printArgBody env n p v verb) (printArgBody env n p' v verb)
  badVerb : ∀ p p' v verb via, Eqv p p' → RelR (badVerb env n p v verb via) (badVerb env n p' v verb via)
  handleMethods : ∀ p p' v verb, Eqv p p' → RelH (handleMethods env n p v verb) (handleMethods env n p' v verb)
  methDispatch : ∀ p p' v ms nr ret sc verb, Eqv p p' →
    RelH (methDispatch env n p v ms nr ret sc verb) (methDispatch env n p' v ms nr ret sc verb)
  fmtString : ∀ p p' v ret verb, Eqv p p' → RelR (fmtString env n p v ret verb) (fmtString env n p' v ret verb)
  catchPanic : ∀ (p0 p0' : PP) (arg : Val) (verb : Nat) (m : List Byte) (nr : Bool) (out out' : SRes), RelS out out' →
    RelR (catchPanic env n p0 arg verb m nr out) (catchPanic env n p0' arg verb m nr out')
  runScript : ∀ p p' sc, Eqv p p' → RelS (runScript env n p sc) (runScript env n p' sc)
  printValue : ∀ p p' v verb d ro, Eqv p p' → RelR (printValue env n p v verb d ro) (printValue env n p' v verb d ro)
  printSlot : ∀ p p' v verb d i ro, Eqv p p' → RelR (printSlot env n p v verb d i ro) (printSlot env n p' v verb d i ro)
  slotMethods : ∀ p p' v verb, Eqv p p' → RelH (slotMethods env n p v verb) (slotMethods env n p' v verb)
  printFields : ∀ p p' fs verb d ro f, Eqv p p' → RelR (printFields env n p fs verb d ro f) (printFields env n p' fs verb d ro f)
  printElems : ∀ p p' vs verb d i ro f, Eqv p p' → RelR (printElems env n p vs verb d i ro f) (printElems env n p' vs verb d i ro f)
  printPairs : ∀ p p' ks vs verb d ik iv ro f, Eqv p p' →
    RelR (printPairs env n p ks vs verb d ik iv ro f) (printPairs env n p' ks vs verb d ik iv ro f)
  doPrint : ∀ p p' args, Eqv p p' → RelR (doPrint env n p args) (doPrint env n p' args)
  doPrintLoop : ∀ p p' args k ps, Eqv p p' → RelR (doPrintLoop env n p args k ps) (doPrintLoop env n p' args k ps)

def eqvLogic (env : Env) : Logic Unit env env where
  toOperands := .any env
  R _ := Eqv
  T _ _ _ := Eqv
  TD _ _ _ := Eqv
  Pn _ _ b b' := b' = b
  lag := False
  hook_eq := rfl
  messager _ _ _ := trivial
  f_eq h := h.f
  erroring_eq h := h.erroring
  panicking_eq h := h.panicking
  wrap_eq h _ := ⟨h.wrapErrs, h.wrappedErr⟩
  dispatch h _ := sameDispatch_of_eq h.override _
  ovUnsafe_redactable h _ := by rw [h.override]
  refl h := h
  trans _ h := h
  pre _ h := h
  Pn_trans _ h := h
  Pn_of_T h := h.buf
  w h _ := h.w _
  wb h _ := h.wb _
  wr _ h := h.wr _
  setF _ h := h.setF _
  setPanicking _ h := h.setPanicking _
  setWrapped _ _ h _ := h.setWrapped _ _
  setWrappedErr _ h _ := h.setWrappedErr _
  err_enter h := h.setErroring _
  err_exit _ h := h.setErroring _
  Starts := StartEqv
  starts_safeOverride := startEqv_safeOverride
  starts_unsafe := startEqv_unsafe
  starts_unsafeOverride _ := startEqv_unsafeOverride
  val_leave _ _ := trivial
  start_in hs h := (hs.st _ _ h).1
  start_out hs h g := by rw [(hs.st _ _ h).2]; exact g.restore _
  start_pn hs h hb := by rw [(hs.st _ _ h).2, hb]
  redactable h _ := by
    rw [(startEqv_preRedactable.st _ _ h).2]
    exact ((startEqv_preRedactable.st _ _ h).1.w _).restore _
  nested_in h := by unfold PP.nested; rw [h.nested]; exact Eqv.refl _
  nested_out h g := by unfold PP.handBack; rw [g.buf, h.buf]; exact h.setBuf _
  nested_pn h hb := by unfold PP.handBack; rw [hb, h.buf]; exact h.setBuf _
  setSafe_in {_ p p'} h := by
    unfold PP.setSafe
    by_cases ho : p.override ≠ .ovUnsafe
    · rw [if_pos ho, if_pos (by rw [h.override]; exact ho), h.buf]; exact h.setBuf _
    · rw [if_neg ho, if_neg (by rw [h.override]; exact ho)]; exact h
  setSafe_out _ g := g
  setSafe_pn _ hb := hb

section
variable {env : Env} {p p' : PP}

theorem relR_of {r r' : Res} (h : (eqvLogic env).RelR () p p' r r') : RelR r r' := by
  cases h with
  | ok h => exact .ok h
  | panic hb _ => cases hb; exact .panic _ _
  | fuel => exact .fuel
  | unsupported => exact .unsupported
  | lagL hl => exact hl.elim

theorem relD_of {r r' : Res} (h : (eqvLogic env).RelD () p p' r r') : RelR r r' :=
  relR_of (h.relR id)

theorem relS_of {o o' : SRes} (h : (eqvLogic env).RelS () p p' o o') : RelS o o' := by
  cases h with
  | ok h => exact .ok h
  | raised h _ => exact .raised _ h
  | abort h => exact .abort (relR_of h)
  | lagL hl => exact hl.elim

theorem relH_of {a a' : Bool × Res} (h : (eqvLogic env).RelH () p p' a a') : RelH a a' :=
  ⟨h.fst_eq id, relR_of h.snd⟩

theorem of_relR {r r' : Res} (h : RelR r r') : ∀ {p p'}, (eqvLogic env).RelR () p p' r r' := by
  cases h with
  | ok h => exact .ok h
  | panic b pl => exact .panic rfl trivial
  | fuel => exact .fuel
  | unsupported => exact .unsupported

theorem of_relS {o o' : SRes} (h : RelS o o') : (eqvLogic env).RelS () p p' o o' := by
  cases h with
  | ok h => exact .ok h
  | raised pl h => exact .raised h trivial
  | abort h => exact .abort (of_relR h)

end

/-- **The functions reachable from `doPrint` do not depend on `reordered` and `goodArgNum`**, at every fuel. -/
theorem espec_all (env : Env) : ∀ n, ESpec env n := by
  intro n
  -- a nested `Printf` starts from the same fresh printer in both runs
  have hpf : ∀ n (_ : Unit) p p' f args, (eqvLogic env).R () p p' → True → (eqvLogic env).list () args →
      (eqvLogic env).RelD () p.nested p'.nested (doPrintf env n p.nested f args) (doPrintf env n p'.nested f args) := by
    intro n _ p p' f args h _ _
    have e : p'.nested = p.nested := h.nested
    rw [e]
    cases doPrintf env n p.nested f args
    · exact .ok (Eqv.refl _)
    · exact .panic rfl trivial
    · exact .fuel
    · exact .unsupported
  have A : (eqvLogic env).SpecA n n := by
    induction n with
    | zero => exact Logic.specA_zero
    | succ n ih => exact Logic.simA_step ih .same (hpf (n + 1))
  exact {
    printArg := fun p p' v verb h => relR_of (A.printArg () p p' v verb h trivial trivial)
    printArgBody := fun p p' v verb h => relR_of (A.printArgBody () p p' v verb h trivial trivial)
    badVerb := fun p p' v verb via h => relR_of (A.badVerb () p p' v verb via h trivial)
    handleMethods := fun p p' v verb h => relH_of (A.handleMethods () p p' v verb h trivial trivial)
    methDispatch := fun p p' v ms nr ret sc verb h => relH_of (A.methDispatch () p p' v ms nr ret sc verb h trivial trivial trivial)
    fmtString := fun p p' v ret verb h => relR_of (A.fmtString () p p' v ret verb h (fun _ => trivial) trivial)
    catchPanic := fun p0 p0' arg verb m nr out out' h =>
      relR_of (A.catchPanic () newPP newPP p0 p0' arg verb m nr out out' (Eqv.refl _) trivial (of_relS h))
    runScript := fun p p' sc h => relS_of (A.runScript () p p' sc h trivial)
    printValue := fun p p' v verb d ro h => relR_of (A.printValue () p p' v verb d ro h trivial trivial)
    printSlot := fun p p' v verb d i ro h => relR_of (A.printSlot () p p' v verb d i ro h trivial trivial)
    slotMethods := fun p p' v verb h => relH_of (A.slotMethods () p p' v verb h trivial trivial)
    printFields := fun p p' fs verb d ro f h => relR_of (A.printFields () p p' fs verb d ro f h trivial trivial)
    printElems := fun p p' vs verb d i ro f h => relR_of (A.printElems () p p' vs verb d i ro f h trivial trivial)
    printPairs := fun p p' ks vs verb d ik iv ro f h => relR_of (A.printPairs () p p' ks vs verb d ik iv ro f h trivial trivial trivial)
    doPrint := fun p p' args h => relD_of (A.doPrint () p p' args h (fun _ _ => trivial))
    doPrintLoop := fun p p' args k ps h => relR_of (A.doPrintLoop () p p' args k ps h (fun _ _ => trivial)) }

end Redact
