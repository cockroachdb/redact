import RedactVerif.Proofs.FuelMono
/-
Containment of user-method panics, globally (C11). Level A: values whose methods never panic
(`ValPF`: no `panic` script anywhere) never make any function of the printer return a propagating
panic, whatever the `panicking` flag. Level B (below): values whose panic *payloads* are of level A
never make a function entered with `panicking = false` return one — the only panics that
propagate are those raised while a panic payload is being printed.

Each level is an induction on the fuel whose step (`aspec_succ`, `bspec_succ`) has one field per function of
the printer, a term that follows the function's text.
-/
namespace Redact

theorem ite_both {α : Sort _} {P : α → Prop} {c : Prop} [Decidable c] {a b : α} (ha : P a) (hb : P b) :
    P (if c then a else b) := by
  split <;> assumption

/-- The callers of a dispatch function: its result if it handled the operand, `k` otherwise. The hypotheses stand
after the colon: before it `match x` would abstract them, and the lemma would not apply to the printer's own `match`. -/
theorem handled_both {P : Res → Prop} {x : Bool × Res} {k : Res} : P x.2 → P k →
    P (match x with | (true, r) => r | (false, _) => k) := by
  intro hx hk
  obtain ⟨b, r⟩ := x
  cases b
  · exact hk
  · exact hx

theorem forall_toList {P : Val → Prop} {Q : Vals → Prop} (hQ : ∀ {v r}, Q (.cons v r) → P v ∧ Q r) :
    (vs : Vals) → Q vs → ∀ v ∈ vs.toList, P v
  | .nil, _ => fun _ h => nomatch h
  | .cons _ r, h => List.forall_mem_cons.2 ⟨(hQ h).1, forall_toList hQ r (hQ h).2⟩

mutual
def ValPF : Val → Prop
  | .nil => True
  | .leaf _ _ _ _ _ _ => True
  | .safeW v => ValPF v
  | .unsafeW v => ValPF v
  | .redactable _ _ => True
  | .meth _ _ _ _ _ _ sc under => ScriptPF sc ∧ ValPF under
  | .slice _ _ _ es => ValsPF es
  | .map _ _ _ _ ks vs => ValsPF ks ∧ ValsPF vs
  | .struct _ _ fs => FieldsPF fs
  | .ptrTo _ v => ValPF v
def ValsPF : Vals → Prop
  | .nil => True
  | .cons v r => ValPF v ∧ ValsPF r
def FieldsPF : Fields → Prop
  | .nil => True
  | .cons _ _ _ v r => ValPF v ∧ FieldsPF r
def ScriptPF : Script → Prop
  | .done => True
  | .safeString _ k => ScriptPF k
  | .unsafeString _ k => ScriptPF k
  | .safeRune _ k => ScriptPF k
  | .write _ k => ScriptPF k
  | .unsafeLeaf _ k => ScriptPF k
  | .print args k => ValsPF args ∧ ScriptPF k
  | .printf _ args k => ValsPF args ∧ ScriptPF k
  | .indep k => ScriptPF k
  | .panic _ => False
end

def ListPF (l : List Val) : Prop := ∀ v ∈ l, ValPF v

/-- The error hook's scripts never panic. -/
def EnvPF (env : Env) : Prop := ∀ h, env.hook = some h → ∀ r v, ScriptPF (h r v)

inductive NoPanic : Res → Prop
  | ok (q : PP) : NoPanic (.ok q)
  | fuel : NoPanic .fuel
  | unsupported : NoPanic .unsupported

/-- The outcome of a user method that cannot panic: a `raised` only stands for a nil receiver. -/
inductive OkS (nr : Bool) : SRes → Prop
  | ok (q : PP) : OkS nr (.ok q)
  | raised (q : PP) (pl : Val) : nr = true → OkS nr (.raised q pl)
  | abort {r : Res} : NoPanic r → OkS nr (.abort r)

def NoPanicH (a : Bool × Res) : Prop := NoPanic a.2

theorem NoPanic.bind {a : Res} {k : PP → Res} (h : NoPanic a) (hk : ∀ q, NoPanic (k q)) : NoPanic (a.bind k) := by
  cases h with
  | ok q => exact hk q
  | fuel => exact .fuel
  | unsupported => exact .unsupported

theorem NoPanic.bracket {start : PP → PP × PP.Restorer} {p : PP} {body : PP → Res} (h : ∀ q, NoPanic (body q)) :
    NoPanic (bracket start p body) := by
  unfold Redact.bracket
  generalize start p = sp
  obtain ⟨q0, r⟩ := sp
  simp only
  have := h q0
  generalize body q0 = x at this
  cases this with
  | ok q => exact .ok _
  | fuel => exact .fuel
  | unsupported => exact .unsupported

theorem np_leafWrite {env : Env} {p : PP} {id verb : Nat} {k : BK} {ty : List Byte} : NoPanic (leafWrite env p id verb k ty) := by
  unfold leafWrite leafWrite1
  refine ite_both (.ok _) ?_
  split
  · exact .unsupported
  · split
    · exact .unsupported
    · exact .bracket fun _ => .ok _

theorem okS_retOut (nr : Bool) (p : PP) {sc : Script} (hsc : ScriptPF sc) {r : Res} (h : NoPanic r) : OkS nr (retOut nr p sc r) := by
  unfold retOut
  split
  · rename_i hnr; exact .raised _ _ hnr
  · split
    · exact hsc.elim
    · exact .abort h

theorem okS_raised_or {nr : Bool} {p : PP} {a : SRes} (h : OkS false a) : OkS nr (if nr = true then SRes.raised p .nil else a) := by
  split
  · rename_i hnr; exact .raised _ _ hnr
  · cases h with
    | ok q => exact .ok q
    | raised q pl h => cases h
    | abort h => exact .abort h

/-- The nested printer of a method's `Print`/`Printf` has returned. -/
theorem okS_nested {r : Res} {f : PP → SRes} {g : Buffer → Val → SRes} : NoPanic r → (∀ q, OkS false (f q)) →
    OkS false (match r with | .ok q => f q | .panic b pl => g b pl | r => .abort r) := by
  intro hr hf
  cases hr with
  | ok q => exact hf q
  | fuel => exact .abort .fuel
  | unsupported => exact .abort .unsupported

structure ASpec (env : Env) (n : Nat) : Prop where
  printArg : ∀ p v verb, ValPF v → NoPanic (printArg env n p v verb)
  printArgBody : ∀ p v verb, ValPF v → NoPanic (printArgBody env n p v verb)
  badVerb : ∀ p v verb via, ValPF v → NoPanic (badVerb env n p v verb via)
  handleMethods : ∀ p v verb, ValPF v → NoPanicH (handleMethods env n p v verb)
  methDispatch : ∀ p v ms nr ret sc verb, ValPF v → ScriptPF sc → NoPanicH (methDispatch env n p v ms nr ret sc verb)
  fmtString : ∀ p v ret verb, ValPF v → NoPanic (fmtString env n p v ret verb)
  catchPanic : ∀ (p0 : PP) (arg : Val) (verb : Nat) (m : List Byte) (nr : Bool) (out : SRes), OkS nr out →
    NoPanic (catchPanic env n p0 arg verb m nr out)
  runScript : ∀ p sc, ScriptPF sc → OkS false (runScript env n p sc)
  printValue : ∀ p v verb d ro, ValPF v → NoPanic (printValue env n p v verb d ro)
  printSlot : ∀ p v verb d i ro, ValPF v → NoPanic (printSlot env n p v verb d i ro)
  slotMethods : ∀ p v verb, ValPF v → NoPanicH (slotMethods env n p v verb)
  printFields : ∀ p fs verb d ro f, FieldsPF fs → NoPanic (printFields env n p fs verb d ro f)
  printElems : ∀ p vs verb d i ro f, ValsPF vs → NoPanic (printElems env n p vs verb d i ro f)
  printPairs : ∀ p ks vs verb d ik iv ro f, ValsPF ks → ValsPF vs → NoPanic (printPairs env n p ks vs verb d ik iv ro f)
  doPrint : ∀ p args, ListPF args → NoPanic (doPrint env n p args)
  doPrintLoop : ∀ p args k ps, ListPF args → NoPanic (doPrintLoop env n p args k ps)
  doPrintf : ∀ p f args, ListPF args → NoPanic (doPrintf env n p f args)
  fmtLoop : ∀ p f args k ai, ListPF args → NoPanic (fmtLoop env n p f args k ai)
  directiveTail : ∀ p f args k ai, ListPF args → NoPanic (directiveTail env n p f args k ai)
  finishPrintf : ∀ p args k, ListPF args → NoPanic (finishPrintf env n p args k)
  extraLoop : ∀ p args f, ListPF args → NoPanic (extraLoop env n p args f)

theorem aspec_zero (env : Env) : ASpec env 0 := by
  constructor <;> intros <;> simp only [printArg, printArgBody, badVerb, handleMethods, methDispatch, fmtString, catchPanic,
    runScript, printValue, printSlot, slotMethods, printFields, printElems, printPairs, doPrint, doPrintLoop,
    doPrintf, fmtLoop, directiveTail, finishPrintf, extraLoop]
  all_goals first
    | exact NoPanic.fuel
    | exact OkS.abort .fuel

variable {env : Env} {n : Nat}

theorem np_handled {x : Bool × Res} {k : Res} (hx : NoPanicH x) (hk : NoPanic k) :
    NoPanic (match x with | (true, r) => r | (false, _) => k) := by
  obtain ⟨b, r⟩ := x
  cases b
  · exact hk
  · exact hx

/-- One more unit of fuel. Each function follows its text: both branches at a test, the hypothesis at fuel `n` at a call. -/
theorem aspec_succ (he : EnvPF env) (A : ASpec env n) : ASpec env (n + 1) where
  printArg := by
    intro p v verb hv
    have body := fun q => A.printArgBody q v verb hv
    unfold printArg
    cases v with
    | safeW w | unsafeW w => exact .bracket fun _ => A.printArg _ _ _ hv
    | _ => exact ite_both (.bracket fun _ => ite_both (.bracket body) (body _)) (ite_both (.bracket body) (body _))
  printArgBody := by
    intro p v verb hv
    have bad := fun q via => A.badVerb q v verb via hv
    have methods := handled_both (P := NoPanic) (A.handleMethods p v verb hv) (A.printValue p v verb 0 false hv)
    unfold printArgBody
    cases v with
    | nil => exact ite_both (.ok _) (bad _ _)
    | leaf id k ty iv sv reg =>
      refine ite_both (.ok _) (ite_both ?_ (ite_both (bad _ _) (ite_both np_leafWrite (bad _ _))))
      cases k with
      | ptr => exact np_leafWrite
      | _ => exact bad _ _
    | redactable c ty => exact ite_both (.ok _) (ite_both (bad _ _) (.bracket fun _ => .ok _))
    | slice | map | ptrTo => exact ite_both (.ok _) (ite_both .unsupported methods)
    | _ => exact ite_both (.ok _) (ite_both (bad _ _) methods)
  badVerb := by
    intro p v verb via hv
    unfold badVerb
    refine .bind ?_ fun _ => .ok _
    cases v with
    | nil => exact .ok _
    | _ => exact ite_both (A.printValue _ _ _ _ _ hv) (A.printArg _ _ _ hv)
  handleMethods := by
    intro p v verb hv
    have bad := fun q => A.badVerb q v verb false hv
    unfold handleMethods
    refine ite_both (NoPanic.ok p) ?_
    cases v with
    | meth ms ty sv reg nr ret sc u =>
      have md := fun q verb => A.methDispatch q _ ms nr ret sc verb hv hv.1
      exact ite_both (ite_both (bad _) (md _ _)) (md _ _)
    | _ => exact ite_both (bad _) (NoPanic.ok p)
  methDispatch := by
    intro p v ms nr ret sc verb hv hsc
    have cp : ∀ m out, OkS nr out → NoPanicH (true, catchPanic env n p v verb m nr out) := fun m => A.catchPanic p v verb m nr
    have run : ∀ sc, ScriptPF sc → OkS nr (if nr = true then .raised p .nil else runScript env n p sc) :=
      fun sc h => okS_raised_or (A.runScript p sc h)
    have out : ∀ {r}, NoPanic r → OkS nr (retOut nr p sc r) := okS_retOut nr p hsc
    have str := A.fmtString p v ret verb hv
    have no : NoPanicH (false, .ok p) := NoPanic.ok p
    unfold methDispatch
    refine ite_both (cp _ _ (run _ hsc)) (ite_both (cp _ _ (out (ite_both (.bracket fun q => A.fmtString q v ret verb hv) str)))
      (ite_both ?_ (ite_both (cp _ _ (run _ hsc)) (ite_both (ite_both (cp _ _ (out ?_)) no)
        (ite_both (ite_both (cp _ _ (out str)) (ite_both (cp _ _ (out str)) no)) no)))))
    · cases hh : env.hook with
      | none => exact no
      | some h => exact cp _ _ (run _ (he h hh _ _))
    · exact .bind np_leafWrite fun _ => .ok _
  fmtString := by
    intro p v ret verb hv
    unfold fmtString
    exact ite_both np_leafWrite (A.badVerb _ _ _ _ hv)
  catchPanic := by
    intro p0 arg verb m nr out h
    unfold catchPanic
    cases h with
    | ok q => exact .ok q
    | abort hr => exact hr
    | raised q pl hnr => subst hnr; exact .ok _
  runScript := by
    intro p sc hv
    unfold runScript
    cases sc with
    | done => exact .ok _
    | panic pl => exact hv.elim
    | print args k => exact okS_nested (A.doPrint _ _ (forall_toList id _ hv.1)) fun _ => A.runScript _ _ hv.2
    | printf f args k => exact okS_nested (A.doPrintf _ _ _ (forall_toList id _ hv.1)) fun _ => A.runScript _ _ hv.2
    | unsafeLeaf id k =>
      dsimp only
      split
      · exact .abort .unsupported
      · exact A.runScript _ _ hv
    | _ => exact A.runScript _ _ hv
  printValue := by
    intro p v verb d ro hv
    unfold printValue
    cases v with
    | nil => exact .ok _
    | leaf id k ty iv sv reg => exact ite_both np_leafWrite (A.badVerb _ _ _ _ hv)
    | meth ms ty sv reg nr ret sc u => exact A.printValue _ _ _ _ _ hv.2
    | struct ty reg fs => exact .bind (A.printFields _ _ _ _ _ _ hv) fun _ => .ok _
    | slice ty isNil iface es =>
      exact ite_both (ite_both (.ok _) (.bind (A.printElems _ _ _ _ _ _ _ hv) fun _ => .ok _))
        (.bind (A.printElems _ _ _ _ _ _ _ hv) fun _ => .ok _)
    | map ty isNil ik iv ks vs => exact ite_both (.ok _) (.bind (A.printPairs _ _ _ _ _ _ _ _ _ hv.1 hv.2) fun _ => .ok _)
    | ptrTo ty to => exact ite_both (A.printSlot _ _ _ _ _ _ hv) .unsupported
    | _ => exact .unsupported
  printSlot := by
    intro p v verb d i ro hv
    have noMethod : ∀ q, NoPanic (slotNoMethod env n v verb d i ro q) :=
      fun q => ite_both (A.printSlot _ _ _ _ _ _ hv) (A.printValue _ _ _ _ _ hv)
    have afterMethods : ∀ q, NoPanic (slotAfterMethods env n v verb d i ro q) :=
      fun q => ite_both (handled_both (A.slotMethods q v verb hv) (noMethod q)) (noMethod q)
    have body : ∀ q, NoPanic (slotBody env n v verb d i ro q) :=
      fun q => ite_both (.bracket afterMethods) (afterMethods q)
    have general : NoPanic (slotGeneral env n v verb d i ro p) := ite_both (.bracket body) (body p)
    cases v with
    | nil => rw [printSlot_eq_nil]; exact ite_both (.ok _) (.ok _)
    | safeW w =>
      cases i
      · rw [printSlot_eq_safeW]; exact .bracket fun _ => A.printSlot _ _ _ _ _ _ hv
      · rw [printSlot_eq_general _ (by simp) (.inl rfl)]; exact general
    | unsafeW w =>
      cases i
      · rw [printSlot_eq_unsafeW]; exact .bracket fun _ => A.printSlot _ _ _ _ _ _ hv
      · rw [printSlot_eq_general _ (by simp) (.inl rfl)]; exact general
    | redactable c ty =>
      cases i
      · rw [printSlot_eq_redactable]; exact .bracket fun _ => .ok _
      · rw [printSlot_eq_general _ (by simp) (.inl rfl)]; exact general
    | _ => rw [printSlot_eq_general _ (by simp) (.inr rfl)]; exact general
  slotMethods := by
    intro p v verb hv
    unfold slotMethods
    refine ite_both (NoPanic.ok p) ?_
    cases v with
    | redactable c ty =>
      refine ite_both ?_ (NoPanic.ok p)
      have hr := A.runScript p (.print (.cons (.redactable c ty) .nil) .done) ⟨⟨trivial, trivial⟩, trivial⟩
      generalize runScript env n p _ = r at hr ⊢
      cases hr with
      | ok q => exact .ok q
      | raised q pl h => cases h
      | abort h => exact h
    | safeW w | unsafeW w => exact NoPanic.unsupported
    | _ => exact A.handleMethods _ _ _ hv
  printFields := by
    intro p fs verb d ro f hv
    unfold printFields
    cases fs with
    | nil => exact .ok _
    | cons name e it v r => exact .bind (A.printSlot _ _ _ _ _ _ hv.1) fun _ => A.printFields _ _ _ _ _ _ hv.2
  printElems := by
    intro p vs verb d i ro f hv
    unfold printElems
    cases vs with
    | nil => exact .ok _
    | cons v r => exact .bind (A.printSlot _ _ _ _ _ _ hv.1) fun _ => A.printElems _ _ _ _ _ _ _ hv.2
  printPairs := by
    intro p ks vs verb d ik iv ro f hk hv
    unfold printPairs
    cases ks with
    | nil => exact .ok _
    | cons k kr =>
      cases vs with
      | nil => exact .ok _
      | cons v vr =>
        exact .bind (A.printSlot _ _ _ _ _ _ hk.1) fun _ => .bind (A.printSlot _ _ _ _ _ _ hv.1) fun _ =>
          A.printPairs _ _ _ _ _ _ _ _ _ hk.2 hv.2
  doPrint := by
    intro p args hv
    unfold doPrint
    exact A.doPrintLoop _ _ _ _ hv
  doPrintLoop := by
    intro p args k ps hl
    unfold doPrintLoop
    cases args with
    | nil => exact .ok _
    | cons a rest =>
      obtain ⟨ha, hrest⟩ := List.forall_mem_cons.1 hl
      exact .bind (A.printArg _ _ _ ha) fun _ => A.doPrintLoop _ _ _ _ hrest
  doPrintf := by
    intro p f args hv
    unfold doPrintf
    exact .bind (A.fmtLoop _ _ _ _ _ hv) fun _ => .ok _
  fmtLoop := by
    intro p f args k ai hv
    have tail := fun q r => A.directiveTail q r args k ai hv
    unfold fmtLoop
    -- `dsimp only` would also turn the pair pattern of the flags into projections
    conv => zeta
    split
    · exact A.finishPrintf _ _ _ hv
    · split
      split
      · refine ite_both ?_ (tail _ _)
        split
        · rename_i a ha
          exact .bind (A.printArg _ _ _ (hv a (List.mem_of_getElem? ha))) fun _ => A.fmtLoop _ _ _ _ _ hv
        · exact .ok _
      · exact tail _ _
  directiveTail := by
    intro p f args k ai hv
    have next := fun q r k => A.fmtLoop q r args k false hv
    rw [directiveTail_eq]
    unfold directiveVerb
    conv => zeta
    split
    split
    · exact .ok _
    · refine ite_both (next _ _ _) (ite_both (next _ _ _) (ite_both (next _ _ _) ?_))
      split
      · rename_i a ha
        exact .bind (A.printArg _ _ _ (hv a (List.mem_of_getElem? ha))) fun _ => next _ _ _
      · exact .ok _
  finishPrintf := by
    intro p args k hl
    unfold finishPrintf
    exact ite_both (.bind (A.extraLoop _ _ _ fun v hv => hl v (List.mem_of_mem_drop hv)) fun _ => .ok _) (.ok _)
  extraLoop := by
    intro p args f hl
    unfold extraLoop
    cases args with
    | nil => exact .ok _
    | cons a rest =>
      obtain ⟨ha, hrest⟩ := List.forall_mem_cons.1 hl
      refine .bind ?_ fun _ => A.extraLoop _ _ _ hrest
      cases a with
      | nil => exact .ok _
      | _ => exact A.printArg _ _ _ ha

/-- **Level A**: values whose methods never panic never make the printer return a propagating panic. -/
theorem aspec_all (env : Env) (he : EnvPF env) : ∀ n, ASpec env n := by
  intro n
  induction n with
  | zero => exact aspec_zero env
  | succ n ih => exact aspec_succ he ih

/-! ### Level B: the payloads of panics are of level A -/

mutual
def ValPB : Val → Prop
  | .nil => True
  | .leaf _ _ _ _ _ _ => True
  | .safeW v => ValPB v
  | .unsafeW v => ValPB v
  | .redactable _ _ => True
  | .meth _ _ _ _ _ _ sc under => ScriptPB sc ∧ ValPB under
  | .slice _ _ _ es => ValsPB es
  | .map _ _ _ _ ks vs => ValsPB ks ∧ ValsPB vs
  | .struct _ _ fs => FieldsPB fs
  | .ptrTo _ v => ValPB v
def ValsPB : Vals → Prop
  | .nil => True
  | .cons v r => ValPB v ∧ ValsPB r
def FieldsPB : Fields → Prop
  | .nil => True
  | .cons _ _ _ v r => ValPB v ∧ FieldsPB r
def ScriptPB : Script → Prop
  | .done => True
  | .safeString _ k => ScriptPB k
  | .unsafeString _ k => ScriptPB k
  | .safeRune _ k => ScriptPB k
  | .write _ k => ScriptPB k
  | .unsafeLeaf _ k => ScriptPB k
  | .print args k => ValsPB args ∧ ScriptPB k
  | .printf _ args k => ValsPB args ∧ ScriptPB k
  | .indep k => ScriptPB k
  | .panic payload => ValPF payload
end

def ListPB (l : List Val) : Prop := ∀ v ∈ l, ValPB v

mutual
theorem pb_of_pf : (v : Val) → ValPF v → ValPB v
  | .nil, _ => trivial
  | .leaf _ _ _ _ _ _, _ => trivial
  | .safeW v, h => pb_of_pf v h
  | .unsafeW v, h => pb_of_pf v h
  | .redactable _ _, _ => trivial
  | .meth _ _ _ _ _ _ sc under, h => ⟨spb_of_spf sc h.1, pb_of_pf under h.2⟩
  | .slice _ _ _ es, h => vpb_of_vpf es h
  | .map _ _ _ _ ks vs, h => ⟨vpb_of_vpf ks h.1, vpb_of_vpf vs h.2⟩
  | .struct _ _ fs, h => fpb_of_fpf fs h
  | .ptrTo _ v, h => pb_of_pf v h
theorem vpb_of_vpf : (vs : Vals) → ValsPF vs → ValsPB vs
  | .nil, _ => trivial
  | .cons v r, h => ⟨pb_of_pf v h.1, vpb_of_vpf r h.2⟩
theorem fpb_of_fpf : (fs : Fields) → FieldsPF fs → FieldsPB fs
  | .nil, _ => trivial
  | .cons _ _ _ v r, h => ⟨pb_of_pf v h.1, fpb_of_fpf r h.2⟩
theorem spb_of_spf : (sc : Script) → ScriptPF sc → ScriptPB sc
  | .done, _ => trivial
  | .safeString _ k, h => spb_of_spf k h
  | .unsafeString _ k, h => spb_of_spf k h
  | .safeRune _ k, h => spb_of_spf k h
  | .write _ k, h => spb_of_spf k h
  | .unsafeLeaf _ k, h => spb_of_spf k h
  | .print args k, h => ⟨vpb_of_vpf args h.1, spb_of_spf k h.2⟩
  | .printf _ args k, h => ⟨vpb_of_vpf args h.1, spb_of_spf k h.2⟩
  | .indep k, h => spb_of_spf k h
  | .panic _, h => h.elim
end

/-- Not printing a panic payload. -/
def PK (p : PP) : Prop := p.panicking = false

theorem PK.w {p : PP} (h : PK p) (s : List Byte) : PK (p.w s) := h
theorem PK.wb {p : PP} (h : PK p) (c : Byte) : PK (p.wb c) := h
theorem PK.wr {p : PP} (h : PK p) (r : Int) : PK (p.wr r) := h
theorem PK.restore {p : PP} (h : PK p) (r : PP.Restorer) : PK (p.restore r) := h
theorem PK.setErroring {p : PP} (h : PK p) (e : Bool) : PK { p with erroring := e } := h
theorem PK.setF {p : PP} (h : PK p) (g : FmtS) : PK { p with f := g } := h
theorem PK.setWrapped {p : PP} (h : PK p) (w : Option Nat) (e : Bool) : PK { p with wrappedErr := w, wrapErrs := e } := h
theorem PK.setWrappedErr {p : PP} (h : PK p) (w : Option Nat) : PK { p with wrappedErr := w } := h
theorem PK.setBuf {p : PP} (h : PK p) (b : Buffer) : PK { p with buf := b } := h
theorem PK.setReordered {p : PP} (h : PK p) (e : Bool) : PK { p with reordered := e } := h
theorem PK.setGood {p : PP} (h : PK p) (e : Bool) : PK { p with goodArgNum := e } := h
theorem PK.fresh (b : Buffer) (o : Override) : PK ({ buf := b, override := o } : PP) := rfl

/-- The separator in front of every element of a container but the first. -/
theorem PK.sep {p : PP} (h : PK p) (first : Bool) :
    PK (if first = true then p else if p.f.sharpV = true then p.w ([0x2C, 0x20] : List UInt8) else p.wb 0x20) :=
  ite_both h (ite_both (h.w _) (h.wb _))

theorem PK.start_safeOverride {p : PP} (h : PK p) : PK p.startSafeOverride.1 := ite_both h h
theorem PK.start_unsafeOverride {p : PP} (h : PK p) : PK p.startUnsafeOverride.1 := ite_both h h
theorem PK.start_unsafe {p : PP} (h : PK p) : PK p.startUnsafe.1 := ite_both h h
theorem PK.start_preRedactable {p : PP} (h : PK p) : PK p.startPreRedactable.1 := ite_both h h

theorem PK.fst {α : Type} {s : PP × α} {q : PP} {x : α} (e : s = (q, x)) (h : PK s.1) : PK q := by
  subst e; exact h

theorem PK.argNumber {p : PP} (h : PK p) (k : Nat) (f : List Byte) (n : Nat) : PK (argNumber p k f n).1 := by
  unfold Redact.argNumber
  repeat' split
  all_goals exact h

theorem PK.widthStage {p : PP} (h : PK p) (args : List Val) (k : Nat) (r : List Byte) (ai : Bool) :
    PK (widthStage p args k r ai).1 := by
  unfold Redact.widthStage
  split
  · exact ite_both ((ite_both ((h.setF _).w _) (h.setF _)).setF _) (ite_both ((h.setF _).w _) (h.setF _))
  · exact ite_both ((h.setF _).setGood _) (h.setF _)

theorem PK.precStage {p : PP} (h : PK p) (args : List Val) (k : Nat) (r : List Byte) (ai : Bool) :
    PK (precStage p args k r ai).1 := by
  have h2 := (ite_both (c := ai = true) (h.setGood false) h).argNumber
  unfold Redact.precStage
  split
  · dsimp only
    split
    · exact ite_both (((h2 _ _ _).setF _).w _) ((h2 _ _ _).setF _)
    · exact (h2 _ _ _).setF _
  · exact h

theorem PK.directiveStages {p : PP} (h : PK p) (f : List Byte) (args : List Val) (k : Nat) :
    PK (directiveStages p f args k).1 := by
  unfold Redact.directiveStages
  split
  rename_i p1 k1 r1 ai1 e1
  have h1 := PK.fst e1 (h.argNumber _ _ _)
  split
  rename_i p2 k2 r2 ai2 e2
  have h2 := PK.fst e2 (h1.widthStage _ _ _ _)
  split
  rename_i p3 k3 r3 ai3 e3
  have h3 := PK.fst e3 (h2.precStage _ _ _ _)
  exact ite_both (P := fun s : PP × Nat × List Byte × Bool => PK s.1) (h3.argNumber _ _ _) h3

/-- The call returned (or ran out of fuel), and the printer it returns is not in the middle of a panic report. -/
inductive NB : Res → Prop
  | ok {q : PP} : PK q → NB (.ok q)
  | fuel : NB .fuel
  | unsupported : NB .unsupported

inductive OkB (nr : Bool) : SRes → Prop
  | ok {q : PP} : PK q → OkB nr (.ok q)
  | raised {q : PP} (pl : Val) : PK q → (nr = true ∨ ValPF pl) → OkB nr (.raised q pl)
  | abort {r : Res} : NB r → OkB nr (.abort r)

def NBH (a : Bool × Res) : Prop := NB a.2

theorem NB.bind {a : Res} {k : PP → Res} (h : NB a) (hk : ∀ q, PK q → NB (k q)) : NB (a.bind k) := by
  cases h with
  | ok hq => exact hk _ hq
  | fuel => exact .fuel
  | unsupported => exact .unsupported

theorem NB.bind_noPanic {a : Res} {k : PP → Res} (h : NoPanic a) (hk : ∀ q, NB (k q)) : NB (a.bind k) := by
  cases h with
  | ok q => exact hk q
  | fuel => exact .fuel
  | unsupported => exact .unsupported

theorem NB.bracket {start : PP → PP × PP.Restorer} {p : PP} (hs : PK (start p).1) {body : PP → Res}
    (h : ∀ q, PK q → NB (body q)) : NB (bracket start p body) := by
  unfold Redact.bracket
  generalize start p = sp at hs
  obtain ⟨q0, r⟩ := sp
  simp only
  have := h q0 hs
  generalize body q0 = x at this
  cases this with
  | ok hq => exact .ok (hq.restore _)
  | fuel => exact .fuel
  | unsupported => exact .unsupported

theorem nb_leafWrite {env : Env} {p : PP} (hp : PK p) {id verb : Nat} {k : BK} {ty : List Byte} :
    NB (leafWrite env p id verb k ty) := by
  unfold leafWrite leafWrite1
  refine ite_both (.ok (hp.w _)) ?_
  split
  · exact .unsupported
  · split
    · exact .unsupported
    · exact .bracket hp.start_unsafe fun _ hq => .ok (hq.w _)

theorem okB_retOut (nr : Bool) {p : PP} (hp : PK p) {sc : Script} (hsc : ScriptPB sc) {r : Res} (h : NB r) :
    OkB nr (retOut nr p sc r) := by
  unfold retOut
  split
  · rename_i hnr; exact .raised _ hp (.inl hnr)
  · split
    · exact .raised _ hp (.inr hsc)
    · exact .abort h

theorem okB_raised_or {nr : Bool} {p : PP} (hp : PK p) {a : SRes} (h : OkB false a) :
    OkB nr (if nr = true then SRes.raised p .nil else a) := by
  split
  · rename_i hnr; exact .raised _ hp (.inl hnr)
  · cases h with
    | ok hq => exact .ok hq
    | raised pl hq h => exact .raised _ hq (.inr (h.resolve_left Bool.false_ne_true))
    | abort h => exact .abort h

/-- The nested printer of a method's `Print`/`Printf` has returned. -/
theorem okB_nested {r : Res} {f : PP → SRes} {g : Buffer → Val → SRes} : NB r → (∀ q, OkB false (f q)) →
    OkB false (match r with | .ok q => f q | .panic b pl => g b pl | r => .abort r) := by
  intro hr hf
  cases hr with
  | ok _ => exact hf _
  | fuel => exact .abort .fuel
  | unsupported => exact .abort .unsupported

structure BSpec (env : Env) (n : Nat) : Prop where
  printArg : ∀ p v verb, PK p → ValPB v → NB (printArg env n p v verb)
  printArgBody : ∀ p v verb, PK p → ValPB v → NB (printArgBody env n p v verb)
  badVerb : ∀ p v verb via, PK p → ValPB v → NB (badVerb env n p v verb via)
  handleMethods : ∀ p v verb, PK p → ValPB v → NBH (handleMethods env n p v verb)
  methDispatch : ∀ p v ms nr ret sc verb, PK p → ValPB v → ScriptPB sc → NBH (methDispatch env n p v ms nr ret sc verb)
  fmtString : ∀ p v ret verb, PK p → ValPB v → NB (fmtString env n p v ret verb)
  catchPanic : ∀ (p0 : PP) (arg : Val) (verb : Nat) (m : List Byte) (nr : Bool) (out : SRes), OkB nr out →
    NB (catchPanic env n p0 arg verb m nr out)
  runScript : ∀ p sc, PK p → ScriptPB sc → OkB false (runScript env n p sc)
  printValue : ∀ p v verb d ro, PK p → ValPB v → NB (printValue env n p v verb d ro)
  printSlot : ∀ p v verb d i ro, PK p → ValPB v → NB (printSlot env n p v verb d i ro)
  slotMethods : ∀ p v verb, PK p → ValPB v → NBH (slotMethods env n p v verb)
  printFields : ∀ p fs verb d ro f, PK p → FieldsPB fs → NB (printFields env n p fs verb d ro f)
  printElems : ∀ p vs verb d i ro f, PK p → ValsPB vs → NB (printElems env n p vs verb d i ro f)
  printPairs : ∀ p ks vs verb d ik iv ro f, PK p → ValsPB ks → ValsPB vs → NB (printPairs env n p ks vs verb d ik iv ro f)
  doPrint : ∀ p args, PK p → ListPB args → NB (doPrint env n p args)
  doPrintLoop : ∀ p args k ps, PK p → ListPB args → NB (doPrintLoop env n p args k ps)
  doPrintf : ∀ p f args, PK p → ListPB args → NB (doPrintf env n p f args)
  fmtLoop : ∀ p f args k ai, PK p → ListPB args → NB (fmtLoop env n p f args k ai)
  directiveTail : ∀ p f args k ai, PK p → ListPB args → NB (directiveTail env n p f args k ai)
  finishPrintf : ∀ p args k, PK p → ListPB args → NB (finishPrintf env n p args k)
  extraLoop : ∀ p args f, PK p → ListPB args → NB (extraLoop env n p args f)

theorem bspec_zero (env : Env) : BSpec env 0 := by
  constructor <;> intros <;> simp only [printArg, printArgBody, badVerb, handleMethods, methDispatch, fmtString, catchPanic,
    runScript, printValue, printSlot, slotMethods, printFields, printElems, printPairs, doPrint, doPrintLoop,
    doPrintf, fmtLoop, directiveTail, finishPrintf, extraLoop]
  all_goals first
    | exact NB.fuel
    | exact OkB.abort .fuel

variable {env : Env} {n : Nat}

/-- As `aspec_succ`, with `PK` carried through every update of the printer on the way to a call. -/
theorem bspec_succ (hf : EnvPF env) (B : BSpec env n) : BSpec env (n + 1) where
  printArg := by
    intro p v verb hp hv
    have body := fun q hq => B.printArgBody q v verb hq hv
    have body1 := fun q (hq : PK q) => ite_both (c := isSafeValue v = true) (.bracket hq.start_safeOverride body) (body q hq)
    unfold printArg
    cases v with
    | safeW w => exact .bracket hp.start_safeOverride fun _ hq => B.printArg _ _ _ hq hv
    | unsafeW w => exact .bracket hp.start_unsafeOverride fun _ hq => B.printArg _ _ _ hq hv
    | _ => exact ite_both (.bracket hp.start_safeOverride body1) (body1 p hp)
  printArgBody := by
    intro p v verb hp hv
    have bad := fun q hq via => B.badVerb q v verb via hq hv
    have methods := handled_both (P := NB) (B.handleMethods p v verb hp hv) (B.printValue p v verb 0 false hp hv)
    unfold printArgBody
    cases v with
    | nil => exact ite_both (.ok (hp.w _)) (bad _ hp _)
    | leaf id k ty iv sv reg =>
      refine ite_both (.ok (hp.w _)) (ite_both ?_ (ite_both (bad _ (hp.setWrapped _ _) _) (ite_both (nb_leafWrite hp) (bad _ hp _))))
      cases k with
      | ptr => exact nb_leafWrite hp
      | _ => exact bad _ hp _
    | redactable c ty =>
      exact ite_both (.ok (hp.w _)) (ite_both (bad _ hp _) (.bracket hp.start_preRedactable fun _ hq => .ok (hq.w _)))
    | slice | map | ptrTo => exact ite_both (.ok (hp.w _)) (ite_both .unsupported methods)
    | _ => exact ite_both (.ok (hp.w _)) (ite_both (bad _ hp _) methods)
  badVerb := by
    intro p v verb via hp hv
    have h1 := (((hp.setErroring true).w percentBang).wr verb).wb 0x28
    unfold badVerb
    refine .bind ?_ fun _ hq => .ok ((hq.wb _).setErroring _)
    cases v with
    | nil => exact .ok (h1.w _)
    | _ => exact ite_both (B.printValue _ _ _ _ _ ((h1.w _).wb _) hv) (B.printArg _ _ _ ((h1.w _).wb _) hv)
  handleMethods := by
    intro p v verb hp hv
    have bad := B.badVerb _ v verb false (hp.setWrapped none false) hv
    unfold handleMethods
    refine ite_both (NB.ok hp) ?_
    cases v with
    | meth ms ty sv reg nr ret sc u =>
      have md := fun q hq verb => B.methDispatch q _ ms nr ret sc verb hq hv hv.1
      exact ite_both (ite_both bad (md _ (hp.setWrappedErr _) _)) (md _ hp _)
    | _ => exact ite_both bad (NB.ok hp)
  methDispatch := by
    intro p v ms nr ret sc verb hp hv hsc
    have cp : ∀ m out, OkB nr out → NBH (true, catchPanic env n p v verb m nr out) := fun m => B.catchPanic p v verb m nr
    have run : ∀ sc, ScriptPB sc → OkB nr (if nr = true then .raised p .nil else runScript env n p sc) :=
      fun sc h => okB_raised_or hp (B.runScript p sc hp h)
    have out : ∀ {r}, NB r → OkB nr (retOut nr p sc r) := okB_retOut nr hp hsc
    have str := B.fmtString p v ret verb hp hv
    have no : NBH (false, .ok p) := NB.ok hp
    unfold methDispatch
    refine ite_both (cp _ _ (run _ hsc))
      (ite_both (cp _ _ (out (ite_both (.bracket hp.start_safeOverride fun q hq => B.fmtString q v ret verb hq hv) str)))
      (ite_both ?_ (ite_both (cp _ _ (run _ hsc)) (ite_both (ite_both (cp _ _ (out ?_)) no)
        (ite_both (ite_both (cp _ _ (out str)) (ite_both (cp _ _ (out str)) no)) no)))))
    · cases hh : env.hook with
      | none => exact no
      | some h => exact cp _ _ (run _ (spb_of_spf _ (hf h hh _ _)))
    · exact .bind (nb_leafWrite (hp.setF _)) fun _ hq => .ok (hq.setF _)
  fmtString := by
    intro p v ret verb hp hv
    unfold fmtString
    exact ite_both (nb_leafWrite hp) (B.badVerb _ _ _ _ hp hv)
  catchPanic := by
    intro p0 arg verb m nr out h
    unfold catchPanic
    cases h with
    | ok hq => exact .ok hq
    | abort hr => exact hr
    | raised pl hq hor =>
      dsimp only
      split
      · exact .ok (hq.w _)
      · rename_i hnr
        rw [if_neg (Bool.eq_false_iff.1 hq)]
        -- the payload is printed with `panicking` set: level A
        exact .bind_noPanic ((aspec_all env hf n).printArg _ pl 118 (hor.resolve_left hnr)) fun _ => .ok rfl
  runScript := by
    intro p sc hp hv
    unfold runScript
    cases sc with
    | done => exact .ok hp
    | panic pl => exact .raised _ hp (.inr hv)
    | indep k => exact B.runScript _ _ hp hv
    | safeString s k => exact B.runScript _ _ ((hp.start_safeOverride.w _).restore _) hv
    | safeRune x k => exact B.runScript _ _ ((hp.start_safeOverride.wr _).restore _) hv
    | unsafeString s k | write s k => exact B.runScript _ _ ((hp.start_unsafe.w _).restore _) hv
    | unsafeLeaf id k =>
      dsimp only
      split
      · exact .abort .unsupported
      · exact B.runScript _ _ ((hp.start_unsafe.w _).restore _) hv
    | print args k =>
      exact okB_nested (B.doPrint _ _ (.fresh _ _) (forall_toList id _ hv.1)) fun _ => B.runScript _ _ (hp.setBuf _) hv.2
    | printf f args k =>
      exact okB_nested (B.doPrintf _ _ _ (.fresh _ _) (forall_toList id _ hv.1)) fun _ => B.runScript _ _ (hp.setBuf _) hv.2
  printValue := by
    intro p v verb d ro hp hv
    unfold printValue
    cases v with
    | nil => exact .ok (hp.w _)
    | leaf id k ty iv sv reg => exact ite_both (nb_leafWrite hp) (B.badVerb _ _ _ _ hp hv)
    | meth ms ty sv reg nr ret sc u => exact B.printValue _ _ _ _ _ hp hv.2
    | struct ty reg fs =>
      exact .bind (B.printFields _ _ _ _ _ _ ((ite_both (hp.w _) hp).wb _) hv) fun _ hq => .ok (hq.wb _)
    | slice ty isNil iface es =>
      exact ite_both (ite_both (.ok ((hp.w _).w _)) (.bind (B.printElems _ _ _ _ _ _ _ ((hp.w _).wb _) hv) fun _ hq => .ok (hq.wb _)))
        (.bind (B.printElems _ _ _ _ _ _ _ (hp.wb _) hv) fun _ hq => .ok (hq.wb _))
    | map ty isNil ik iv ks vs =>
      exact ite_both (.ok ((hp.w _).w _))
        (.bind (B.printPairs _ _ _ _ _ _ _ _ _ (ite_both ((hp.w _).wb _) (hp.w _)) hv.1 hv.2) fun _ hq => .ok (hq.wb _))
    | ptrTo ty to => exact ite_both (B.printSlot _ _ _ _ _ _ (hp.wb _) hv) .unsupported
    | _ => exact .unsupported
  printSlot := by
    intro p v verb d i ro hp hv
    have noMethod : ∀ q, PK q → NB (slotNoMethod env n v verb d i ro q) :=
      fun q hq => ite_both (B.printSlot _ _ _ _ _ _ hq hv) (B.printValue _ _ _ _ _ hq hv)
    have afterMethods : ∀ q, PK q → NB (slotAfterMethods env n v verb d i ro q) :=
      fun q hq => ite_both (handled_both (B.slotMethods q v verb hq hv) (noMethod q hq)) (noMethod q hq)
    have body : ∀ q, PK q → NB (slotBody env n v verb d i ro q) :=
      fun q hq => ite_both (.bracket hq.start_safeOverride afterMethods) (afterMethods q hq)
    have general : NB (slotGeneral env n v verb d i ro p) := ite_both (.bracket hp.start_safeOverride body) (body p hp)
    cases v with
    | nil => rw [printSlot_eq_nil]; exact ite_both (.ok (hp.w _)) (.ok (hp.w _))
    | safeW w =>
      cases i
      · rw [printSlot_eq_safeW]; exact .bracket hp.start_safeOverride fun _ hq => B.printSlot _ _ _ _ _ _ hq hv
      · rw [printSlot_eq_general _ (by simp) (.inl rfl)]; exact general
    | unsafeW w =>
      cases i
      · rw [printSlot_eq_unsafeW]; exact .bracket hp.start_unsafeOverride fun _ hq => B.printSlot _ _ _ _ _ _ hq hv
      · rw [printSlot_eq_general _ (by simp) (.inl rfl)]; exact general
    | redactable c ty =>
      cases i
      · rw [printSlot_eq_redactable]; exact .bracket hp.start_preRedactable fun _ hq => .ok (hq.w _)
      · rw [printSlot_eq_general _ (by simp) (.inl rfl)]; exact general
    | _ => rw [printSlot_eq_general _ (by simp) (.inr rfl)]; exact general
  slotMethods := by
    intro p v verb hp hv
    unfold slotMethods
    refine ite_both (NB.ok hp) ?_
    cases v with
    | redactable c ty =>
      refine ite_both ?_ (NB.ok hp)
      -- a redactable prints itself without calling a user method: by level A its script raises nothing
      have hr := B.runScript p (.print (.cons (.redactable c ty) .nil) .done) hp ⟨⟨trivial, trivial⟩, trivial⟩
      have ha := (aspec_all env hf n).runScript p (.print (.cons (.redactable c ty) .nil) .done) ⟨⟨trivial, trivial⟩, trivial⟩
      generalize runScript env n p _ = r at hr ha ⊢
      cases hr with
      | ok hq => exact .ok hq
      | raised pl hq h => cases ha with | raised _ _ h => cases h
      | abort h => exact h
    | safeW w | unsafeW w => exact NB.unsupported
    | _ => exact B.handleMethods _ _ _ hp hv
  printFields := by
    intro p fs verb d ro f hp hv
    unfold printFields
    cases fs with
    | nil => exact .ok hp
    | cons name e it v r =>
      have h1 := hp.sep f
      exact .bind (B.printSlot _ _ _ _ _ _ (ite_both ((h1.w _).wb _) h1) hv.1) fun _ hq => B.printFields _ _ _ _ _ _ hq hv.2
  printElems := by
    intro p vs verb d i ro f hp hv
    unfold printElems
    cases vs with
    | nil => exact .ok hp
    | cons v r =>
      exact .bind (B.printSlot _ _ _ _ _ _ (hp.sep f) hv.1) fun _ hq =>
        B.printElems _ _ _ _ _ _ _ hq hv.2
  printPairs := by
    intro p ks vs verb d ik iv ro f hp hk hv
    unfold printPairs
    cases ks with
    | nil => exact .ok hp
    | cons k kr =>
      cases vs with
      | nil => exact .ok hp
      | cons v vr =>
        exact .bind (B.printSlot _ _ _ _ _ _ (hp.sep f) hk.1) fun _ hq =>
          .bind (B.printSlot _ _ _ _ _ _ (hq.wb _) hv.1) fun _ hq2 => B.printPairs _ _ _ _ _ _ _ _ _ hq2 hk.2 hv.2
  doPrint := by
    intro p args hp hv
    unfold doPrint
    exact B.doPrintLoop _ _ _ _ (ite_both (hp.setBuf _) hp) hv
  doPrintLoop := by
    intro p args k ps hp hl
    unfold doPrintLoop
    cases args with
    | nil => exact .ok hp
    | cons a rest =>
      obtain ⟨ha, hrest⟩ := List.forall_mem_cons.1 hl
      exact .bind (B.printArg _ _ _ (ite_both (hp.wb _) hp) ha) fun _ hq => B.doPrintLoop _ _ _ _ hq hrest
  doPrintf := by
    intro p f args hp hv
    unfold doPrintf
    exact .bind (B.fmtLoop _ _ _ _ _ ((ite_both (hp.setBuf _) hp).setReordered _) hv) fun _ hq => .ok hq
  fmtLoop := by
    intro p f args k ai hp hv
    have h1 := ite_both (c := (f.takeWhile (· ≠ 0x25)).isEmpty = true) (hp.setGood true) ((hp.setGood true).w (f.takeWhile (· ≠ 0x25)))
    unfold fmtLoop
    conv => zeta
    split
    · exact B.finishPrintf _ _ _ h1 hv
    · split
      rename_i fs r1 _
      have h2 := h1.setF { plus := fs.plus, minus := fs.minus, sharp := fs.sharp, space := fs.space, zero := fs.zero }
      have tail := B.directiveTail _ r1 args k ai h2 hv
      split
      · refine ite_both ?_ tail
        split
        · rename_i a ha
          exact .bind (B.printArg _ _ _ (ite_both (h2.setF _) h2) (hv a (List.mem_of_getElem? ha))) fun _ hq =>
            B.fmtLoop _ _ _ _ _ hq hv
        · exact .ok (ite_both (h2.setF _) h2)
      · exact tail
  directiveTail := by
    intro p f args k ai hp hv
    have next := fun q hq r k => B.fmtLoop q r args k false hq hv
    rw [directiveTail_eq]
    unfold directiveVerb
    conv => zeta
    split
    rename_i p4 k4 r4 ai4 e4
    have h4 := PK.fst e4 (hp.directiveStages f args k)
    split
    · exact .ok (h4.w _)
    · refine ite_both (next _ (h4.wb _) _ _) (ite_both (next _ (((h4.w _).wr _).w _) _ _)
        (ite_both (next _ (((h4.w _).wr _).w _) _ _) ?_))
      split
      · rename_i a ha
        exact .bind (B.printArg _ _ _ (ite_both (h4.setF _) h4) (hv a (List.mem_of_getElem? ha))) fun _ hq => next _ hq _ _
      · exact .ok (ite_both (h4.setF _) h4)
  finishPrintf := by
    intro p args k hp hl
    unfold finishPrintf
    exact ite_both (.bind (B.extraLoop _ _ _ ((hp.setF _).w _) fun v hv => hl v (List.mem_of_mem_drop hv)) fun _ hq => .ok (hq.wb _))
      (.ok hp)
  extraLoop := by
    intro p args f hp hl
    have h1 := ite_both (c := f = true) hp (hp.w ([0x2C, 0x20] : List UInt8))
    unfold extraLoop
    cases args with
    | nil => exact .ok hp
    | cons a rest =>
      obtain ⟨ha, hrest⟩ := List.forall_mem_cons.1 hl
      refine .bind ?_ fun _ hq => B.extraLoop _ _ _ hq hrest
      cases a with
      | nil => exact .ok (h1.w _)
      | _ => exact B.printArg _ _ _ ((h1.w _).wb _) ha

/-- **Level B**: with an error hook that does not panic, values whose panic payloads are of level A
never make a function entered outside a panic report return a propagating panic — and the printer
they return is again outside a panic report. -/
theorem bspec_all (env : Env) (hf : EnvPF env) : ∀ n, BSpec env n := by
  intro n
  induction n with
  | zero => exact bspec_zero env
  | succ n ih => exact bspec_succ hf ih

end Redact
