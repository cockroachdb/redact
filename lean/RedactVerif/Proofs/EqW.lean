import RedactVerif.Proofs.Sim
import RedactVerif.Proofs.Utf8
/-
`HelperForErrorf` differs from `Sprintf` in one bit of the printer, `wrapErrs` (and the error it captures,
`wrappedErr`). These two fields are read and written only where a `%w` directive is being handled. Here: every
function of the printer computes the same — same buffer, same everything else — whatever these two fields hold, as
long as the verb it is given is not `w`; the `doPrintf` family for every format none of whose directives has the
verb `w` (`NoW`; for ASCII formats: the byte `w` does not occur, `noW_of_ascii`): the fundamental lemma (Proofs/Sim.lean) for the relation `Eqv`
below, with the verbs other than `w` and the formats `NoW` as what is admitted.
-/
namespace Redact.EqW

/-- Equal up to `wrapErrs` and `wrappedErr`. -/
structure Eqv (p p' : PP) : Prop where
  buf : p'.buf = p.buf
  override : p'.override = p.override
  f : p'.f = p.f
  erroring : p'.erroring = p.erroring
  panicking : p'.panicking = p.panicking
  reordered : p'.reordered = p.reordered
  goodArgNum : p'.goodArgNum = p.goodArgNum

theorem Eqv.refl (p : PP) : Eqv p p := ⟨rfl, rfl, rfl, rfl, rfl, rfl, rfl⟩

inductive RelR : Res → Res → Prop
  | ok {q q' : PP} : Eqv q q' → RelR (.ok q) (.ok q')
  | panic (b : Buffer) (pl : Val) : RelR (.panic b pl) (.panic b pl)
  | fuel : RelR .fuel .fuel
  | unsupported : RelR .unsupported .unsupported

inductive RelS : SRes → SRes → Prop
  | ok {q q' : PP} : Eqv q q' → RelS (.ok q) (.ok q')
  | raised {q q' : PP} (pl : Val) : Eqv q q' → RelS (.raised q pl) (.raised q' pl)
  | abort {r r' : Res} : RelR r r' → RelS (.abort r) (.abort r')

structure RelH (a a' : Bool × Res) : Prop where
  fst : a'.1 = a.1
  snd : RelR a.2 a'.2

theorem RelR.refl (r : Res) : RelR r r := by
  cases r
  · exact .ok (Eqv.refl _)
  · exact .panic _ _
  · exact .fuel
  · exact .unsupported
theorem RelS.refl (r : SRes) : RelS r r := by
  cases r
  · exact .ok (Eqv.refl _)
  · exact .raised _ (Eqv.refl _)
  · exact .abort (RelR.refl _)

theorem Eqv.w {p p' : PP} (h : Eqv p p') (s : List Byte) : Eqv (p.w s) (p'.w s) :=
  ⟨by simp [PP.w, h.buf], h.override, h.f, h.erroring, h.panicking, h.reordered, h.goodArgNum⟩
theorem Eqv.wb {p p' : PP} (h : Eqv p p') (c : Byte) : Eqv (p.wb c) (p'.wb c) :=
  ⟨by simp [PP.wb, h.buf], h.override, h.f, h.erroring, h.panicking, h.reordered, h.goodArgNum⟩
theorem Eqv.wr {p p' : PP} (h : Eqv p p') (r : Int) : Eqv (p.wr r) (p'.wr r) :=
  ⟨by simp [PP.wr, h.buf], h.override, h.f, h.erroring, h.panicking, h.reordered, h.goodArgNum⟩

theorem Eqv.setErroring {p p' : PP} (h : Eqv p p') (e : Bool) : Eqv { p with erroring := e } { p' with erroring := e } :=
  ⟨h.buf, h.override, h.f, rfl, h.panicking, h.reordered, h.goodArgNum⟩
theorem Eqv.setF {p p' : PP} (h : Eqv p p') (g : FmtS) : Eqv { p with f := g } { p' with f := g } :=
  ⟨h.buf, h.override, rfl, h.erroring, h.panicking, h.reordered, h.goodArgNum⟩
theorem Eqv.setPanicking {p p' : PP} (h : Eqv p p') (e : Bool) : Eqv { p with panicking := e } { p' with panicking := e } :=
  ⟨h.buf, h.override, h.f, h.erroring, rfl, h.reordered, h.goodArgNum⟩
theorem Eqv.setWrapped {p p' : PP} (h : Eqv p p') (w w' : Option Nat) (e e' : Bool) :
    Eqv { p with wrappedErr := w, wrapErrs := e } { p' with wrappedErr := w', wrapErrs := e' } :=
  ⟨h.buf, h.override, h.f, h.erroring, h.panicking, h.reordered, h.goodArgNum⟩
theorem Eqv.setWrappedErr {p p' : PP} (h : Eqv p p') (w w' : Option Nat) :
    Eqv { p with wrappedErr := w } { p' with wrappedErr := w' } :=
  ⟨h.buf, h.override, h.f, h.erroring, h.panicking, h.reordered, h.goodArgNum⟩
theorem Eqv.setReordered {p p' : PP} (h : Eqv p p') (e : Bool) : Eqv { p with reordered := e } { p' with reordered := e } :=
  ⟨h.buf, h.override, h.f, h.erroring, h.panicking, rfl, h.goodArgNum⟩
theorem Eqv.setGood {p p' : PP} (h : Eqv p p') (e : Bool) : Eqv { p with goodArgNum := e } { p' with goodArgNum := e } :=
  ⟨h.buf, h.override, h.f, h.erroring, h.panicking, h.reordered, rfl⟩
theorem Eqv.setBuf {p p' : PP} (h : Eqv p p') (b : Buffer) : Eqv { p with buf := b } { p' with buf := b } :=
  ⟨rfl, h.override, h.f, h.erroring, h.panicking, h.reordered, h.goodArgNum⟩
/-- The nested printer of `SafePrinter.Print/Printf`: a fresh printer sharing buffer and override. -/
theorem Eqv.nested {p p' : PP} (h : Eqv p p') :
    ({ buf := p'.buf, override := p'.override } : PP) = { buf := p.buf, override := p.override } := by
  rw [h.buf, h.override]

/-- The four `start*()`: related printers give related printers and the same restorer. -/
structure StartEqv (start : PP → PP × PP.Restorer) : Prop where
  st : ∀ p p', Eqv p p' → Eqv (start p).1 (start p').1 ∧ (start p').2 = (start p).2

theorem Eqv.restore {q q' : PP} (h : Eqv q q') (r : PP.Restorer) : Eqv (q.restore r) (q'.restore r) :=
  ⟨by simp [PP.restore, h.buf], rfl, h.f, h.erroring, h.panicking, h.reordered, h.goodArgNum⟩

/-- Every `start*()` is a guarded switch of mode and override that remembers what it replaced. -/
theorem StartEqv.guarded (c : Override → Prop) [DecidablePred c] (m : Mode) (o : Override → Override)
    {start : PP → PP × PP.Restorer}
    (hs : ∀ p, start p = (if c p.override then { p with buf := p.buf.setMode m, override := o p.override } else p,
      ⟨p.buf.mode, p.override⟩)) : StartEqv start := by
  refine ⟨fun p p' h => ?_⟩
  rw [hs, hs, h.override, h.buf]
  refine ⟨?_, rfl⟩
  split
  · exact ⟨rfl, rfl, h.f, h.erroring, h.panicking, h.reordered, h.goodArgNum⟩
  · exact h

theorem startEqv_safeOverride : StartEqv PP.startSafeOverride := .guarded (· = .no) .safeEsc (fun _ => .ovSafe) fun _ => rfl
theorem startEqv_unsafeOverride : StartEqv PP.startUnsafeOverride := .guarded (· = .no) .unsafeEsc (fun _ => .ovUnsafe) fun _ => rfl
theorem startEqv_unsafe : StartEqv PP.startUnsafe := .guarded (· ≠ .ovSafe) .unsafeEsc id fun _ => rfl
theorem startEqv_preRedactable : StartEqv PP.startPreRedactable := .guarded (· ≠ .ovUnsafe) .raw id fun _ => rfl

/-! ### Setting the two fields; formats without `%w` -/

def setW (p : PP) (a : Bool) (b : Option Nat) : PP := { p with wrapErrs := a, wrappedErr := b }

theorem eqv_setW (p : PP) (a : Bool) (b : Option Nat) : Eqv p (setW p a b) := ⟨rfl, rfl, rfl, rfl, rfl, rfl, rfl⟩

theorem argNumber_setW (p : PP) (a : Bool) (b : Option Nat) (k : Nat) (f : List Byte) (n : Nat) :
    argNumber (setW p a b) k f n = (setW (argNumber p k f n).1 a b, (argNumber p k f n).2) := by
  unfold argNumber
  split
  · dsimp only
    repeat' split
    all_goals rfl
  · rfl

theorem widthStage_setW (p : PP) (a : Bool) (b : Option Nat) (args : List Val) (k : Nat) (r : List Byte) (ai : Bool) :
    widthStage (setW p a b) args k r ai = (setW (widthStage p args k r ai).1 a b, (widthStage p args k r ai).2) := by
  unfold widthStage
  split
  · dsimp only
    rcases intFromArg args k with ⟨num, isInt, newArg⟩
    dsimp only
    cases isInt <;> by_cases hn : num < 0 <;>
      simp only [hn, if_true, if_false, Bool.not_false, Bool.not_true, Bool.false_eq_true] <;> rfl
  · dsimp only
    rcases parsenum r with ⟨w, wp, r'⟩
    dsimp only
    cases ai <;> cases wp <;> rfl

theorem precStage_setW (p : PP) (a : Bool) (b : Option Nat) (args : List Val) (k : Nat) (r : List Byte) (ai : Bool) :
    precStage (setW p a b) args k r ai = (setW (precStage p args k r ai).1 a b, (precStage p args k r ai).2) := by
  unfold precStage
  split
  · dsimp only
    have hs : (if ai = true then { setW p a b with goodArgNum := false } else setW p a b) =
        setW (if ai = true then { p with goodArgNum := false } else p) a b := by
      cases ai <;> rfl
    rw [hs, argNumber_setW]
    rcases argNumber (if ai = true then { p with goodArgNum := false } else p) k _ args.length with ⟨p1, k1, r1, ai1⟩
    dsimp only
    split
    · dsimp only
      rcases intFromArg args k1 with ⟨num, isInt, newArg⟩
      dsimp only
      by_cases hn : num < 0
      · simp only [hn, if_true, Bool.not_false]; rfl
      · cases isInt <;> simp only [hn, if_false, Bool.not_false, Bool.not_true, if_true, Bool.false_eq_true] <;> rfl
    · dsimp only
      rcases parsenum r1 with ⟨pr, pp, r3⟩
      rfl
  · rfl

/-- No directive of the format has the verb `w`: wherever the parser can stand in the format, the verb it decodes
there is not `w`. (Implied by: the format does not contain the byte `w` — `noW_of_not_mem`.) -/
def NoW (f : List Byte) : Prop := ∀ r v r', r <:+ f → decodeVerb r = some (v, r') → v ≠ 119

theorem NoW.suffix {f r : List Byte} (h : NoW f) (hr : r <:+ f) : NoW r :=
  fun r1 v r' h1 hd => h r1 v r' (h1.trans hr) hd

theorem parseFlags_suffix (fk : Bool) : ∀ (st : FState) (r : List Byte), (parseFlags fk st r).2 <:+ r :=
  Redact.parseFlags_suffix fk

theorem parsenumAux_suffix : ∀ (r : List Byte) (n : Nat) (b : Bool), (parsenumAux n b r).2.2 <:+ r :=
  fun r n b => Redact.parsenumAux_suffix n b r

theorem parsenum_suffix (r : List Byte) : (parsenum r).2.2 <:+ r := Redact.parsenum_suffix r

theorem argNumber_suffix (p : PP) (k : Nat) (f : List Byte) (n : Nat) : (argNumber p k f n).2.2.1 <:+ f :=
  Redact.argNumber_suffix p k f n

theorem widthStage_suffix (p : PP) (args : List Val) (k : Nat) (r : List Byte) (ai : Bool) :
    (widthStage p args k r ai).2.2.1 <:+ r := Redact.widthStage_suffix p args k r ai

theorem precStage_suffix (p : PP) (args : List Val) (k : Nat) (r : List Byte) (ai : Bool) :
    (precStage p args k r ai).2.2.1 <:+ r := Redact.precStage_suffix p args k r ai

theorem decodeVerb_suffix {r : List Byte} {v : Nat} {r' : List Byte} (h : decodeVerb r = some (v, r')) : r' <:+ r :=
  Redact.decodeVerb_suffix r v r' h

/-- What is known at fuel `n` about every function of the printer. -/
structure ESpec (env : Env) (n : Nat) : Prop where
  printArg : ∀ p p' v verb, Eqv p p' → verb ≠ 119 → RelR (printArg env n p v verb) (printArg env n p' v verb)
  printArgBody : ∀ p p' v verb, Eqv p p' → verb ≠ 119 → RelR (printArgBody env n p v verb) (printArgBody env n p' v verb)
  badVerb : ∀ p p' v verb via, Eqv p p' → verb ≠ 119 → RelR (badVerb env n p v verb via) (badVerb env n p' v verb via)
  handleMethods : ∀ p p' v verb, Eqv p p' → verb ≠ 119 → RelH (handleMethods env n p v verb) (handleMethods env n p' v verb)
  methDispatch : ∀ p p' v ms nr ret sc verb, Eqv p p' → verb ≠ 119 →
    RelH (methDispatch env n p v ms nr ret sc verb) (methDispatch env n p' v ms nr ret sc verb)
  fmtString : ∀ p p' v ret verb, Eqv p p' → verb ≠ 119 → RelR (fmtString env n p v ret verb) (fmtString env n p' v ret verb)
  catchPanic : ∀ (p0 p0' : PP) (arg : Val) (verb : Nat) (m : List Byte) (nr : Bool) (out out' : SRes), RelS out out' → verb ≠ 119 →
    RelR (catchPanic env n p0 arg verb m nr out) (catchPanic env n p0' arg verb m nr out')
  runScript : ∀ p p' sc, Eqv p p' → RelS (runScript env n p sc) (runScript env n p' sc)
  printValue : ∀ p p' v verb d ro, Eqv p p' → verb ≠ 119 → RelR (printValue env n p v verb d ro) (printValue env n p' v verb d ro)
  printSlot : ∀ p p' v verb d i ro, Eqv p p' → verb ≠ 119 → RelR (printSlot env n p v verb d i ro) (printSlot env n p' v verb d i ro)
  slotMethods : ∀ p p' v verb, Eqv p p' → verb ≠ 119 → RelH (slotMethods env n p v verb) (slotMethods env n p' v verb)
  printFields : ∀ p p' fs verb d ro f, Eqv p p' → verb ≠ 119 → RelR (printFields env n p fs verb d ro f) (printFields env n p' fs verb d ro f)
  printElems : ∀ p p' vs verb d i ro f, Eqv p p' → verb ≠ 119 → RelR (printElems env n p vs verb d i ro f) (printElems env n p' vs verb d i ro f)
  printPairs : ∀ p p' ks vs verb d ik iv ro f, Eqv p p' → verb ≠ 119 →
    RelR (printPairs env n p ks vs verb d ik iv ro f) (printPairs env n p' ks vs verb d ik iv ro f)
  doPrint : ∀ p p' args, Eqv p p' → RelR (doPrint env n p args) (doPrint env n p' args)
  doPrintLoop : ∀ p p' args k ps, Eqv p p' → RelR (doPrintLoop env n p args k ps) (doPrintLoop env n p' args k ps)
  doPrintf : ∀ p p' f args, Eqv p p' → NoW f → RelR (doPrintf env n p f args) (doPrintf env n p' f args)
  fmtLoop : ∀ p p' f args k ai, Eqv p p' → NoW f → RelR (fmtLoop env n p f args k ai) (fmtLoop env n p' f args k ai)
  directiveTail : ∀ p p' f args k ai, Eqv p p' → NoW f →
    RelR (directiveTail env n p f args k ai) (directiveTail env n p' f args k ai)
  finishPrintf : ∀ p p' args k, Eqv p p' → RelR (finishPrintf env n p args k) (finishPrintf env n p' args k)
  extraLoop : ∀ p p' args f, Eqv p p' → RelR (extraLoop env n p args f) (extraLoop env n p' args f)


/-- `Eqv` as a logic of the printer: every verb but `w`, every format without a `%w` directive, any operands. -/
def eqvLogic (env : Env) : LogicF Unit env env where
  toOperands := { Operands.any env with
    toFormats := {
      W := fun _ => True
      Vb := fun v => v ≠ 119
      Fm := NoW
      FmN := fun _ => True
      W_asc := fun _ => trivial
      Vb_v := by decide
      Fm_lit := fun _ => trivial
      Fm_percent := fun h e => h.suffix ((List.suffix_cons _ _).trans (e ▸ List.dropWhile_suffix _))
      Fm_flags := fun _ h => h.suffix (parseFlags_suffix _ _ _)
      Fm_ascii := fun {c r} h hc => ⟨h _ _ r (List.suffix_refl _) (by simp [decodeVerb, hc]), h.suffix (List.suffix_cons _ _)⟩
      Fm_argNumber := fun _ _ _ h => h.suffix (argNumber_suffix _ _ _ _)
      Fm_width := fun _ _ _ _ h => h.suffix (widthStage_suffix _ _ _ _ _)
      Fm_prec := fun _ _ _ _ h => h.suffix (precStage_suffix _ _ _ _ _)
      Fm_verb := fun h hd => ⟨h _ _ _ (List.suffix_refl _) hd, h.suffix (decodeVerb_suffix hd)⟩ } }
  R _ := Eqv
  T _ _ _ := Eqv
  TD _ _ _ := Eqv
  Pn _ _ b b' := b' = b
  lag := False
  hook_eq := rfl
  messager _ _ _ := trivial
  f_eq h := h.f
  erroring_eq h := h.erroring
  panicking_eq h := h.panicking
  wrap_eq _ h := absurd rfl h
  dispatch h _ := sameDispatch_of_eq h.override _
  ovUnsafe_redactable h _ := by rw [h.override]
  reordered_eq h := h.reordered
  goodArgNum_eq h := h.goodArgNum
  refl h := h
  trans _ h := h
  pre _ h := h
  Pn_trans _ h := h
  Pn_of_T h := h.buf
  w h _ := h.w _
  wb h _ := h.wb _
  wr _ h := h.wr _
  setF _ h := h.setF _
  setPanicking _ h := h.setPanicking _
  setWrapped _ _ _ h := absurd rfl h
  setWrappedErr _ _ h := absurd rfl h
  setReordered _ h := h.setReordered _
  setGood _ h := h.setGood _
  err_enter h := h.setErroring _
  err_exit _ h := h.setErroring _
  Starts := StartEqv
  starts_safeOverride := startEqv_safeOverride
  starts_unsafe := startEqv_unsafe
  starts_unsafeOverride _ := startEqv_unsafeOverride
  val_leave _ _ := trivial
  start_in hs h := (hs.st _ _ h).1
  start_out hs h g := by rw [(hs.st _ _ h).2]; exact g.restore _
  start_pn hs h hb := by rw [(hs.st _ _ h).2, hb]
  redactable h _ := by
    rw [(startEqv_preRedactable.st _ _ h).2]
    exact ((startEqv_preRedactable.st _ _ h).1.w _).restore _
  nested_in h := by unfold PP.nested; rw [h.nested]; exact Eqv.refl _
  nested_out h g := by unfold PP.handBack; rw [g.buf, h.buf]; exact h.setBuf _
  nested_pn h hb := by unfold PP.handBack; rw [hb, h.buf]; exact h.setBuf _
  setSafe_in {_ p p'} h := by
    unfold PP.setSafe
    by_cases ho : p.override ≠ .ovUnsafe
    · rw [if_pos ho, if_pos (by rw [h.override]; exact ho), h.buf]; exact h.setBuf _
    · rw [if_neg ho, if_neg (by rw [h.override]; exact ho)]; exact h
  setSafe_out _ g := g
  setSafe_pn _ hb := hb

section
variable {env : Env} {p p' : PP}

theorem relR_of {r r' : Res} (h : (eqvLogic env).RelR () p p' r r') : RelR r r' := by
  cases h with
  | ok h => exact .ok h
  | panic hb _ => cases hb; exact .panic _ _
  | fuel => exact .fuel
  | unsupported => exact .unsupported
  | lagL hl => exact hl.elim

theorem relD_of {r r' : Res} (h : (eqvLogic env).RelD () p p' r r') : RelR r r' :=
  relR_of (h.relR id)

theorem relS_of {o o' : SRes} (h : (eqvLogic env).RelS () p p' o o') : RelS o o' := by
  cases h with
  | ok h => exact .ok h
  | raised h _ => exact .raised _ h
  | abort h => exact .abort (relR_of h)
  | lagL hl => exact hl.elim

theorem relH_of {a a' : Bool × Res} (h : (eqvLogic env).RelH () p p' a a') : RelH a a' :=
  ⟨h.fst_eq id, relR_of h.snd⟩

theorem of_relR {r r' : Res} (h : RelR r r') : ∀ {p p'}, (eqvLogic env).RelR () p p' r r' := by
  cases h with
  | ok h => exact .ok h
  | panic b pl => exact .panic rfl trivial
  | fuel => exact .fuel
  | unsupported => exact .unsupported

theorem of_relS {o o' : SRes} (h : RelS o o') : (eqvLogic env).RelS () p p' o o' := by
  cases h with
  | ok h => exact .ok h
  | raised pl h => exact .raised h trivial
  | abort h => exact .abort (of_relR h)

end

/-- **No function of the printer looks at `wrapErrs`/`wrappedErr` unless it is given the verb `w`**, at every fuel. -/
theorem espec_all (env : Env) : ∀ n, ESpec env n := by
  intro n
  -- a nested `Printf` starts from the same fresh printer in both runs: it never captures
  have hpf : ∀ n (_ : Unit) p p' f args, (eqvLogic env).R () p p' → True → (eqvLogic env).list () args →
      (eqvLogic env).RelD () p.nested p'.nested (doPrintf env n p.nested f args) (doPrintf env n p'.nested f args) := by
    intro n _ p p' f args h _ _
    have e : p'.nested = p.nested := h.nested
    rw [e]
    cases doPrintf env n p.nested f args
    · exact .ok (Eqv.refl _)
    · exact .panic rfl trivial
    · exact .fuel
    · exact .unsupported
  obtain ⟨A, B⟩ := LogicF.sim_all_of (eqvLogic env) .same hpf n
  exact {
    printArg := fun p p' v verb h hv => relR_of (A.printArg () p p' v verb h trivial hv)
    printArgBody := fun p p' v verb h hv => relR_of (A.printArgBody () p p' v verb h trivial hv)
    badVerb := fun p p' v verb via h _ => relR_of (A.badVerb () p p' v verb via h trivial)
    handleMethods := fun p p' v verb h hv => relH_of (A.handleMethods () p p' v verb h trivial hv)
    methDispatch := fun p p' v ms nr ret sc verb h _ => relH_of (A.methDispatch () p p' v ms nr ret sc verb h trivial trivial trivial)
    fmtString := fun p p' v ret verb h _ => relR_of (A.fmtString () p p' v ret verb h (fun _ => trivial) trivial)
    catchPanic := fun p0 p0' arg verb m nr out out' h _ =>
      relR_of (A.catchPanic () newPP newPP p0 p0' arg verb m nr out out' (Eqv.refl _) trivial (of_relS h))
    runScript := fun p p' sc h => relS_of (A.runScript () p p' sc h trivial)
    printValue := fun p p' v verb d ro h hv => relR_of (A.printValue () p p' v verb d ro h trivial hv)
    printSlot := fun p p' v verb d i ro h hv => relR_of (A.printSlot () p p' v verb d i ro h trivial hv)
    slotMethods := fun p p' v verb h hv => relH_of (A.slotMethods () p p' v verb h trivial hv)
    printFields := fun p p' fs verb d ro f h hv => relR_of (A.printFields () p p' fs verb d ro f h trivial hv)
    printElems := fun p p' vs verb d i ro f h hv => relR_of (A.printElems () p p' vs verb d i ro f h trivial hv)
    printPairs := fun p p' ks vs verb d ik iv ro f h hv => relR_of (A.printPairs () p p' ks vs verb d ik iv ro f h trivial trivial hv)
    doPrint := fun p p' args h => relD_of (A.doPrint () p p' args h (fun _ _ => trivial))
    doPrintLoop := fun p p' args k ps h => relR_of (A.doPrintLoop () p p' args k ps h (fun _ _ => trivial))
    doPrintf := fun p p' f args h hf => relD_of (B.doPrintf () p p' f args h hf (fun _ _ => trivial))
    fmtLoop := fun p p' f args k ai h hf => relR_of (B.fmtLoop () p p' f args k ai h hf (fun _ _ => trivial))
    directiveTail := fun p p' f args k ai h hf => relR_of (B.directiveTail () p p' f args k ai h hf (fun _ _ => trivial))
    finishPrintf := fun p p' args k h => relR_of (B.finishPrintf () p p' args k h (fun _ _ => trivial))
    extraLoop := fun p p' args f h => relR_of (B.extraLoop () p p' args f h (fun _ _ => trivial)) }


/-- A format of ASCII bytes without the letter `w` has no `%w` directive (the parser's ASCII fast path reads the verb
byte as it is). -/
theorem noW_of_ascii (f : List Byte) (h : ∀ x ∈ f, x < 0x80 ∧ x ≠ 0x77) : NoW f := by
  intro r v r' hr hd
  unfold decodeVerb at hd
  split at hd
  · cases hd
  · rename_i c rest
    have hc := h c (hr.subset (List.mem_cons_self ..))
    rw [if_pos hc.1] at hd
    cases hd
    intro h119
    apply hc.2
    have : c.toNat = (0x77 : UInt8).toNat := h119
    exact UInt8.toNat.inj this |> fun e => e

/-- `HelperForErrorf` and `Sprintf` print the same — return the same bytes, or propagate the same panic — for every
format without a `%w` directive, whatever the operands (their methods may use `%w` in nested `Printf` calls). -/
theorem errorf_rel_sprintf (env : Env) (f : List Byte) (args : List Val) (hf : NoW f) :
    RelR (sprintf env f args) (helperForErrorf env f args) :=
  (espec_all env defaultFuel).doPrintf newPP { newPP with wrapErrs := true } f args ⟨rfl, rfl, rfl, rfl, rfl, rfl, rfl⟩ hf

/-! ### The byte-level criterion: a decoded multi-byte verb is at least 0x80 -/

/-- The `first` table, read back: what a lead byte announces. -/
def leadFact (k : Nat) : Bool :=
  match leadInfo (UInt8.ofNat k) with
  | none => true
  | some (sz, lo, hi) =>
    (sz == 2 && decide (2 ≤ k &&& 0x1F)) ||
    (sz == 3 && (decide (1 ≤ k &&& 0x0F) || (lo == 0xA0 && hi == 0xBF))) ||
    (sz == 4 && (decide (1 ≤ k &&& 0x07) || (lo == 0x90 && hi == 0xBF)))

theorem leadFact_all : ∀ k : Fin 256, leadFact k.val = true := by decide +kernel

theorem lo_and (k : Nat) (h1 : 0xA0 ≤ k) (h2 : k ≤ 0xBF) : 0x20 ≤ k &&& 0x3F := by
  rw [and3F]; omega

theorem lo_and4 (k : Nat) (h1 : 0x90 ≤ k) (h2 : k ≤ 0xBF) : 0x10 ≤ k &&& 0x3F := by
  rw [and3F]; omega

/-- What `decodeRune` accepted, read back. -/
theorem decodeRune_ok {c : Byte} {rest : List Byte} {n : Nat} (hc : ¬ c < 0x80) (h : decodeRune (c :: rest) = (false, n)) :
    ∃ sz lo hi b1 r', leadInfo c = some (sz, lo, hi) ∧ rest = b1 :: r' ∧ lo ≤ b1 ∧ b1 ≤ hi ∧
      (n = 2 → sz ≤ 2) ∧ (n = 3 → ¬ sz ≤ 2 ∧ sz ≤ 3) ∧ (n = 4 → ¬ sz ≤ 3) := by
  rcases decodeRune_cases (c :: rest) with e | e | ⟨_, _, hw, hc', -⟩ | ⟨_, lo, hi, b, t, p, hw, hl, h1, h2, -, e⟩
  · rw [e] at h; cases h
  · rw [e] at h; cases h
  · cases hw; exact absurd hc' hc
  · cases hw; rw [e] at h; cases h
    exact ⟨_, lo, hi, b, t ++ p, hl, rfl, h1, h2, by omega, by omega, by omega⟩

/-- A verb decoded as `w` was spelled with the byte `w`. -/
theorem decodeVerb_w {r : List Byte} {v : Nat} {r' : List Byte} (h : decodeVerb r = some (v, r')) (hv : v = 119) :
    ∃ t, r = 0x77 :: t := by
  unfold decodeVerb at h
  cases r with
  | nil => cases h
  | cons c rest =>
    simp only at h
    by_cases hc : c < 0x80
    · rw [if_pos hc] at h
      cases h
      exact ⟨_, by rw [show c = 0x77 from UInt8.toNat.inj hv]⟩
    · -- a verb of two or more bytes is at least 0x80
      exfalso
      rw [if_neg hc] at h
      rcases decodeRune_cases (c :: rest) with e | e | ⟨_, _, hw, hc', -⟩ | ⟨_, lo, hi, b, t, p, hw, hl, h1, h2, -, e⟩
      · rw [e] at h; cases h; omega
      · rw [e] at h; cases h; omega
      · cases hw; exact hc hc'
      · cases hw
        have lf := leadFact_all ⟨c.toNat, c.toNat_lt⟩
        rw [leadFact, UInt8.ofNat_toNat, hl] at lf
        rw [e] at h
        rcases t with _ | ⟨b2, _ | ⟨b3, _ | ⟨b4, t⟩⟩⟩
        · cases h
          simp at lf
          have hA : (c.toNat &&& 31) <<< 6 ≤ 119 := by rw [← hv]; exact Nat.left_le_or
          rw [Nat.shiftLeft_eq] at hA
          omega
        · cases h
          simp at lf
          have hA : (c.toNat &&& 15) <<< 12 ≤ 119 := by rw [← hv]; exact Nat.le_trans Nat.left_le_or Nat.left_le_or
          have hB : (b.toNat &&& 63) <<< 6 ≤ 119 := by rw [← hv]; exact Nat.le_trans Nat.right_le_or Nat.left_le_or
          rw [Nat.shiftLeft_eq] at hA hB
          rcases lf with lf | ⟨rfl, rfl⟩
          · omega
          · have := lo_and b.toNat h1 h2; omega
        · cases h
          simp at lf
          have hA : (c.toNat &&& 7) <<< 18 ≤ 119 := by
            rw [← hv]; exact Nat.le_trans (Nat.le_trans Nat.left_le_or Nat.left_le_or) Nat.left_le_or
          have hB : (b.toNat &&& 63) <<< 12 ≤ 119 := by
            rw [← hv]; exact Nat.le_trans (Nat.le_trans Nat.right_le_or Nat.left_le_or) Nat.left_le_or
          rw [Nat.shiftLeft_eq] at hA hB
          rcases lf with lf | ⟨rfl, rfl⟩
          · omega
          · have := lo_and4 b.toNat h1 h2; omega
        · have := (leadInfo_spec hl).2.1; simp at this

/-- **A format that does not contain the byte `w` has no `%w` directive.** -/
theorem noW_of_not_mem (f : List Byte) (h : (0x77 : Byte) ∉ f) : NoW f := by
  intro r v r' hr hd hv
  obtain ⟨t, rfl⟩ := decodeVerb_w hd hv
  exact h (hr.subset (List.mem_cons_self ..))

end Redact.EqW
