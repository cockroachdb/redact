import RedactVerif.Proofs.U.Inv
namespace Redact.U

/-- The text outside envelopes of a fully validated buffer. -/
def fT (b : Buffer) : List Tok := safeText (evT (tokenize b.buf))

theorem fT_endRedactable (b : Buffer) (h : FullOK b true) : fT b.endRedactable = fT b := by
  have hne : tokenize b.buf ≠ [] := tokens_ne_nil_of_scan_true h.sc
  have hb : b.buf.isEmpty = false := by
    cases hbb : b.buf with
    | nil => rw [hbb] at hne; simp at hne
    | cons _ _ => rfl
  unfold fT
  by_cases hs : hasSuffix b.buf startB = true
  · have hs' := (hasSuffix_iff _ _).1 hs
    have e1 : b.endRedactable.buf = dropLast 3 b.buf := by simp [Buffer.endRedactable, hb, hs]
    have hl := (getLast_tokenize_start b.buf).2 hs'
    have hsn := snoc_of_getLast hl
    rw [e1, tokenize_dropLast_start _ hs']
    conv => rhs; rw [hsn, safeText_evT_snoc_s]
  · have hs1 : hasSuffix b.buf startB = false := by simpa using hs
    have e1 : b.endRedactable.buf = b.buf ++ endB := by simp [Buffer.endRedactable, hb, hs1]
    rw [e1, tokenize_append_endB, safeText_evT_snoc_e]

/-- Leaving unsafe mode: the pending bytes are escaped inside the envelope (line feeds break it),
and the envelope is closed. Outside envelopes only line feeds have been added. -/
theorem BU_exit {b0 b : Buffer} (h : BU b0 b) (m : Mode) (hm : m ≠ .unsafeEsc) :
    Inv (b.setMode m) ∧ (b.setMode m).validUntil = (b.setMode m).buf.length ∧ (b.setMode m).markerOpen = false ∧
    ∃ l, OnlyLFs l ∧ fT (b.setMode m) = sT b0 ++ l := by
  have hne : b.mode ≠ m := by rw [h.mode]; exact fun e => hm e.symm
  have hnr : b.mode ≠ .raw := by rw [h.mode]; decide
  have ⟨_, v1, o1⟩ := setMode_buf b m h.inv hne
  refine ⟨inv_setMode _ _ h.inv, v1, o1, ?_⟩
  obtain ⟨l, ol, el⟩ := h.lf
  have hdec : decide (b.mode = .unsafeEsc) = true := by simp [h.mode]
  have hsc : scan (tokenize b.pre) = some b.markerOpen := h.inv.sc
  cases ho : b.markerOpen with
  | false =>
    rw [setMode_esc_closed b m hne hnr ho, hdec]
    refine ⟨l, ol, ?_⟩
    show safeText (evT (tokenize (b.escapeToEnd true).buf)) = _
    rw [tokenize_escapeToEnd b h.inv, h.ct ho, if_neg Bool.false_ne_true, h.inv.closedEmpty h.mode ho]
    simpa [escTok, sT] using el
  | true =>
    rw [setMode_esc_open b m hne hnr ho, hdec]
    have ⟨hf, _, _⟩ := escapeToEnd_full b h.inv
    rw [hdec, ho] at hf
    refine ⟨l ++ lfT (tokenize b.suf), onlyLFs_append ol (onlyLFs_lfT _), ?_⟩
    show fT (b.escapeToEnd true).endRedactable = _
    rw [fT_endRedactable _ hf]
    unfold fT
    rw [tokenize_escapeToEnd b h.inv]
    rw [ho] at hsc
    have hR : safeText (evT (escTok true (tokenize b.pre) (tokenize b.suf))) = sT b0 ++ (l ++ lfT (tokenize b.suf)) := by
      rw [safeText_escTok_open _ _ hsc, ← List.append_assoc, ← el]; rfl
    split
    · rw [safeText_evT_snoc_open _ _ (scan_escTok_open _ _ hsc)]; exact hR
    · exact hR

end Redact.U

namespace Redact.U

/-- **`Unsafe(x)` as an operand, anywhere**: whatever `x` is (safe values, `Safe(…)` wrappers,
redactable strings, formatters, errors, panicking methods inside it), when its printing returns
the buffer is closed and fully validated again, and outside envelopes nothing but line feeds was
added to what the output would have been without the operand.
The hypothesis `hT` says that the text before the operand does not end in a truncated character. -/
theorem unsafe_operand (env : Env) (he : EnvOk env) (n : Nat) (p : PP) (v : Val) (verb : Nat)
    (hp : Redact.Pre p) (ho : p.override = .no) (hm : p.buf.mode ≠ .unsafeEsc)
    (hT : tailBad p.buf.finalize.buf = false) (hv : ValOk v) (q : PP)
    (h : printArg env (n + 1) p (.unsafeW v) verb = .ok q) :
    Inv q.buf ∧ q.buf.mode = p.buf.mode ∧ q.override = .no ∧ q.buf.validUntil = q.buf.buf.length ∧
      q.buf.markerOpen = false ∧ ∃ l, OnlyLFs l ∧ fT q.buf = fT p.buf.finalize ++ l := by
  simp only [printArg] at h
  obtain ⟨q', heq, rfl⟩ := bracket_ok h
  have es : p.startUnsafeOverride.1 = { p with buf := p.buf.setMode .unsafeEsc, override := .ovUnsafe } := by
    unfold PP.startUnsafeOverride
    rw [if_pos ho]
  rw [es] at heq
  have ⟨e1, v1, o1⟩ := setMode_buf p.buf .unsafeEsc hp.1 hm
  have hp' : Pre ({ p with buf := p.buf.setMode .unsafeEsc, override := .ovUnsafe } : PP) := by
    dsimp only [Pre]
    exact ⟨inv_setMode _ _ hp.1, setMode_mode _ _, rfl, fun _ => by rw [e1]; exact hT⟩
  have g := ((spec_all env he n).printArg _ v verb hp' hv).1 q' heq
  have ⟨i, vv, oo, l, ol, el⟩ := BU_exit g.1 p.buf.mode hm
  have e : sT (p.buf.setMode .unsafeEsc) = fT p.buf.finalize := by
    unfold sT fT
    rw [pre_of_full v1, e1]
  dsimp only [PP.restore, PP.startUnsafeOverride]
  exact ⟨i, setMode_mode _ _, ho, vv, oo, l, ol, el.trans (congrArg (· ++ l) e)⟩

end Redact.U

namespace Redact.U

/-- A closed, well-formed byte string whose outside text is only line feeds ends with an end
marker or a line feed (or is empty): its tail is a complete character. -/
theorem tail_of_onlyLFs (l : List Byte) (hs : scan (tokenize l) = some false)
    (h : OnlyLFs (safeText (evT (tokenize l)))) : tailBad l = false := by
  by_cases hne : tokenize l = []
  · have : l = [] := tokenize_eq_nil hne
    subst this; decide
  · obtain ⟨u0, x, hux⟩ : ∃ u x, tokenize l = u ++ [x] :=
      ⟨(tokenize l).dropLast, (tokenize l).getLast hne, (List.dropLast_concat_getLast hne).symm⟩
    have hl : l = untok u0 ++ x.bytes := by
      have := untok_tokenize l
      rw [hux, untok_append] at this
      simpa using this.symm
    rw [hux] at hs h
    cases x with
    | s => rw [hl]; exact tailBad_startB _
    | e => rw [hl]; exact tailBad_endB _
    | b c =>
      have hu : scan u0 = some false := by
        rw [scan_append] at hs
        cases hsu : scan u0 with
        | none => simp [hsu] at hs
        | some o =>
          cases o with
          | false => rfl
          | true => rw [hsu] at hs; simp only [Option.bind_some, scanFrom] at hs; split at hs <;> cases hs
      have hc := closed_of_scan_false hu
      rw [evT_snoc_content, hc, safeText_append] at h
      have := h (.b c) (by simp [absTok, safeText])
      injection this with hcc
      subst hcc
      rw [hl]
      exact tailBad_lf _

/-- **`Sprint(Unsafe(x))`: everything is inside envelopes** — what remains of the output when the
envelopes are dropped consists of line feeds (each line's envelope is closed before the line
feed and reopened after it). For every `x` — safe values, `Safe(…)`, redactable strings (their
own markers are escaped), formatters, errors, panicking methods inside it included — and every fuel. -/
theorem sprint_unsafe_enveloped (env : Env) (he : EnvOk env) (v : Val) (hv : ValOk v) (n : Nat) (q : PP)
    (h : doPrint env n newPP [.unsafeW v] = .ok q) :
    OnlyLFs (safeText (evT (tokenize q.buf.redactableBytes))) := by
  obtain ⟨k, p1, e1, ho, hp, hr⟩ := sprint_one h
  have hfin : p1.buf.finalize.buf = [] := by rw [e1]; decide
  have ⟨i, m, _, vv, oo, l, ol, el⟩ := unsafe_operand env he k p1 v 118 hp ho
    (by rw [e1]; decide) (by rw [hfin]; decide) hv q hr
  have hm : q.buf.mode ≠ .raw := by rw [m, e1]; decide
  have hdec : decide (q.buf.mode = .unsafeEsc) = false := by rw [m, e1]; decide
  have hpre := pre_of_full vv
  have hsuf := suf_of_full vv
  have hsc : scan (tokenize q.buf.buf) = some false := by have := i.sc; rwa [hpre, oo] at this
  have hfT : fT q.buf = l := by rw [el]; unfold fT; rw [hfin]; rfl
  have hl : OnlyLFs (safeText (evT (tokenize q.buf.buf))) := by
    change OnlyLFs (fT q.buf); rw [hfT]; exact ol
  unfold Buffer.redactableBytes
  rw [finalize_esc_closed _ hm oo, hdec, tokenize_escapeToEnd _ i, tail_of_onlyLFs _ hsc hl,
    if_neg Bool.false_ne_true, hpre, hsuf]
  simpa [escTok] using hl

end Redact.U
