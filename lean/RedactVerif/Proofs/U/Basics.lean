import RedactVerif.Proofs.U.Buffer
/-
The vocabulary of `PrinterBasics.lean` re-read for printing under an `Unsafe` override: the same
names with the same shapes, so that the induction of `PrinterInv.lean` can be repeated on them.
-/
namespace Redact.U

/-- Under an `Unsafe(…)` wrapper: unsafe mode, `overrideUnsafe`. -/
def Pre (p : PP) : Prop :=
  Inv p.buf ∧ p.buf.mode = .unsafeEsc ∧ p.override = .ovUnsafe ∧ (p.buf.markerOpen = false → tailBad p.buf.buf = false)

def G (p q : PP) : Prop := BU p.buf q.buf ∧ q.override = p.override

theorem Pre.bu {p : PP} (h : Pre p) : BU p.buf p.buf := BU.refl h.1 h.2.1 h.2.2.2
theorem G.refl {p : PP} (h : Pre p) : G p p := ⟨h.bu, rfl⟩
theorem G.trans {p q r : PP} (h1 : G p q) (h2 : G q r) : G p r := ⟨BU.trans h1.1 h2.1, h2.2.trans h1.2⟩
theorem G.pre {p q : PP} (hp : Pre p) (h : G p q) : Pre q := ⟨h.1.inv, h.1.mode, by rw [h.2]; exact hp.2.2.1, h.1.ct⟩

def GR (p : PP) (r : Res) : Prop :=
  (∀ q, r = .ok q → G p q) ∧ (∀ b pl, r = .panic b pl → BU p.buf b ∧ ValOk pl)

theorem G_w {p : PP} (hp : Pre p) (s : List Byte) : G p (p.w s) := ⟨BU_write hp.bu s, rfl⟩
theorem G_wb {p : PP} (hp : Pre p) (c : Byte) : G p (p.wb c) := by
  dsimp only [G, PP.wb]
  exact ⟨BU_writeByte hp.bu c, rfl⟩
theorem G_wr {p : PP} (hp : Pre p) (r : Int) : G p (p.wr r) := ⟨BU_writeRune hp.bu r, rfl⟩

theorem G_same {p q : PP} (hp : Pre p) (hb : q.buf = p.buf) (ho : q.override = p.override) : G p q :=
  ⟨by rw [hb]; exact hp.bu, ho⟩

theorem GR_bind {p : PP} {r : Res} {f : PP → Res} (h1 : GR p r) (h2 : ∀ q, G p q → GR q (f q)) : GR p (r.bind f) :=
  Res.bind_cases h1.2 fun q1 e =>
    have g := h1.1 q1 e
    ⟨fun q hq => G.trans g ((h2 q1 g).1 q hq),
      fun b pl hq => ⟨BU.trans g.1 ((h2 q1 g).2 b pl hq).1, ((h2 q1 g).2 b pl hq).2⟩⟩

/-- Under the override every `startX` leaves the printer as it is, and its restorer restores what is already there. -/
theorem GR_bracket (start : PP → PP × PP.Restorer) (p : PP) (body : PP → Res) (hp : Pre p)
    (hstart : Pre (start p).1 ∧ (start p).2 = ⟨p.buf.mode, p.override⟩ ∧ (start p).1 = p)
    (hbody : GR (start p).1 (body (start p).1)) : GR p (bracket start p body) := by
  rw [hstart.2.2] at hbody
  exact bracket_same hstart.2.2 hstart.2.1 (fun _ g => ⟨g.1.mode.trans hp.2.1.symm, g.2⟩)
    (fun _ _ g => g.1.mode.trans hp.2.1.symm) hbody

theorem start_safeOverride {p : PP} (hp : Pre p) :
    Pre p.startSafeOverride.1 ∧ p.startSafeOverride.2 = ⟨p.buf.mode, p.override⟩ ∧ p.startSafeOverride.1 = p := by
  unfold PP.startSafeOverride
  have : ¬ (p.override = .no) := by rw [hp.2.2.1]; decide
  simp only [this, if_false]
  exact ⟨hp, trivial, trivial⟩

theorem start_unsafeOverride {p : PP} (hp : Pre p) :
    Pre p.startUnsafeOverride.1 ∧ p.startUnsafeOverride.2 = ⟨p.buf.mode, p.override⟩ ∧ p.startUnsafeOverride.1 = p := by
  unfold PP.startUnsafeOverride
  have : ¬ (p.override = .no) := by rw [hp.2.2.1]; decide
  simp only [this, if_false]
  exact ⟨hp, trivial, trivial⟩

theorem start_unsafe {p : PP} (hp : Pre p) :
    Pre p.startUnsafe.1 ∧ p.startUnsafe.2 = ⟨p.buf.mode, p.override⟩ ∧ p.startUnsafe.1 = p := by
  unfold PP.startUnsafe
  have : p.override ≠ .ovSafe := by rw [hp.2.2.1]; decide
  simp only [this, if_true, ne_eq, not_false_eq_true]
  have e : p.buf.setMode .unsafeEsc = p.buf := setMode_same _ _ hp.2.1
  rw [e]
  exact ⟨hp, trivial, rfl⟩

theorem start_preRedactable {p : PP} (hp : Pre p) :
    Pre p.startPreRedactable.1 ∧ p.startPreRedactable.2 = ⟨p.buf.mode, p.override⟩ ∧ p.startPreRedactable.1 = p := by
  unfold PP.startPreRedactable
  have : ¬ (p.override ≠ .ovUnsafe) := by rw [hp.2.2.1]; decide
  simp only [this, if_false]
  exact ⟨hp, trivial, trivial⟩

theorem GR_ok {p q : PP} (h : G p q) : GR p (.ok q) :=
  ⟨fun q' hq => (by cases hq; exact h), fun b pl hq => (by cases hq)⟩

/-- A finished redactable under the override: written like any other unsafe bytes. -/
theorem GR_preRedactable (p : PP) (content : List Byte) (hp : Pre p) (_hc : Obtainable content) :
    GR p (bracket PP.startPreRedactable p fun q => .ok (q.w content)) :=
  GR_bracket _ _ _ hp (start_preRedactable hp) (GR_ok (G_w (start_preRedactable hp).1 _))

theorem GR_none (p : PP) {r : Res} (h1 : ∀ q, r ≠ .ok q) (h2 : ∀ b pl, r ≠ .panic b pl) : GR p r :=
  ⟨fun q hq => absurd hq (h1 q), fun b pl hq => absurd hq (h2 b pl)⟩

theorem GR_leafWrite (env : Env) (p : PP) (id verb : Nat) (k : BK) (ty : List Byte) (hp : Pre p) :
    GR p (leafWrite env p id verb k ty) := by
  rcases leafWrite_cases env p id verb k ty with ⟨s, e⟩ | ⟨s, e⟩ | e <;> rw [e]
  · exact GR_ok (G_w hp s)
  · exact GR_bracket _ _ _ hp (start_unsafe hp) (GR_ok (G_w (start_unsafe hp).1 s))
  · exact GR_none p (fun _ h => nomatch h) (fun _ _ h => nomatch h)

end Redact.U
