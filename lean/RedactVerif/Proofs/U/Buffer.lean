import RedactVerif.Proofs.Plain
import RedactVerif.Proofs.PrinterInv
namespace Redact

/-! ### Everything written under `Unsafe(…)` is inside envelopes: buffer level -/

def OnlyLFs (l : List Tok) : Prop := ∀ t ∈ l, t = .b LF

theorem onlyLFs_nil : OnlyLFs [] := fun _ h => nomatch h
theorem onlyLFs_append {a b : List Tok} (ha : OnlyLFs a) (hb : OnlyLFs b) : OnlyLFs (a ++ b) :=
  List.forall_mem_append.2 ⟨ha, hb⟩

theorem onlyLFs_lfT (x : List Tok) : OnlyLFs (lfT x) := by
  induction x with
  | nil => exact onlyLFs_nil
  | cons t r ih =>
    cases t with
    | b y =>
      simp only [lfT]
      split
      · exact List.forall_mem_cons.2 ⟨rfl, ih⟩
      · exact ih
    | _ => exact ih

/-- The text outside envelopes in the validated part of the buffer. -/
def sT (b : Buffer) : List Tok := safeText (evT (tokenize b.pre))

/-- `b` was reached from `b0` by writes made under an `Unsafe` override: still in unsafe mode,
and what was added outside envelopes (so far: in the validated part) consists of line feeds. -/
structure BU (b0 b : Buffer) : Prop where
  inv : Inv b
  mode : b.mode = .unsafeEsc
  ct : b.markerOpen = false → tailBad b.buf = false
  lf : ∃ l, OnlyLFs l ∧ sT b = sT b0 ++ l

theorem BU.refl {b : Buffer} (hi : Inv b) (hm : b.mode = .unsafeEsc) (hc : b.markerOpen = false → tailBad b.buf = false) :
    BU b b := ⟨hi, hm, hc, [], onlyLFs_nil, by simp⟩

theorem BU.trans {a b c : Buffer} (h1 : BU a b) (h2 : BU b c) : BU a c := by
  obtain ⟨l1, o1, e1⟩ := h1.lf
  obtain ⟨l2, o2, e2⟩ := h2.lf
  exact ⟨h2.inv, h2.mode, h2.ct, l1 ++ l2, onlyLFs_append o1 o2, by rw [e2, e1, List.append_assoc]⟩

theorem sT_startWrite (b : Buffer) (hi : Inv b) (hm : b.mode = .unsafeEsc) :
    sT b.startWrite = sT b ∧ b.startWrite.markerOpen = true := by
  by_cases hc : b.mode = .unsafeEsc ∧ b.markerOpen = false
  · have hfull := full_of_suf_nil hi.le (hi.closedEmpty hc.1 hc.2)
    have hpre := pre_of_full hfull
    have F : FullOK b false := ⟨hfull, by have := hi.good; rwa [hpre] at this,
      by have := hi.sc; rwa [hpre, hc.2] at this⟩
    have ⟨_, _, hmo, _⟩ := startRedactable_full b F
    have e : b.startWrite = { b.startRedactable with validUntil := b.startRedactable.buf.length } := startWrite_open b hc
    have hpre' : b.startWrite.pre = b.startRedactable.buf := by rw [e]; simp [Buffer.pre]
    refine ⟨?_, by rw [e]; exact hmo⟩
    unfold sT
    rw [hpre', hpre]
    by_cases hs : hasSuffix b.buf endB = true
    · have hs' := (hasSuffix_iff _ _).1 hs
      have e1 : b.startRedactable.buf = dropLast 3 b.buf := by simp [Buffer.startRedactable, hs]
      have hl := (getLast_tokenize_end b.buf).2 hs'
      have hsn := snoc_of_getLast hl
      rw [e1, tokenize_dropLast_end _ hs']
      conv => rhs; rw [hsn, safeText_evT_snoc_e]
    · have hs1 : hasSuffix b.buf endB = false := by simpa using hs
      have e1 : b.startRedactable.buf = b.buf ++ startB := by simp [Buffer.startRedactable, hs1]
      rw [e1, tokenize_append_startB, safeText_evT_snoc_s]
  · rw [startWrite_noop b hc]
    refine ⟨rfl, ?_⟩
    cases ho : b.markerOpen with
    | true => rfl
    | false => exact absurd ⟨hm, ho⟩ hc

theorem BU_startWrite {b0 b : Buffer} (h : BU b0 b) : BU b0 b.startWrite ∧ b.startWrite.markerOpen = true := by
  have ⟨j, m, _, _⟩ := inv_startWrite b h.inv
  have ⟨e, o⟩ := sT_startWrite b h.inv h.mode
  obtain ⟨l, ol, el⟩ := h.lf
  exact ⟨⟨j, by rw [m]; exact h.mode, fun hc => (by rw [o] at hc; cases hc), l, ol, by rw [e, el]⟩, o⟩

theorem BU_append {b0 b : Buffer} (h : BU b0 b) (ho : b.markerOpen = true) (s : List Byte) : BU b0 (b.append s) := by
  have j := inv_append b s h.inv (fun hc => by rw [ho] at hc; cases hc.2) (fun hr => by rw [h.mode] at hr; cases hr)
  obtain ⟨l, ol, el⟩ := h.lf
  exact ⟨j, h.mode, fun hc => (by change b.markerOpen = false at hc; rw [ho] at hc; cases hc), l, ol,
    by unfold sT at el ⊢; rw [pre_append b s h.inv.le, el]⟩

theorem BU_write {b0 b : Buffer} (h : BU b0 b) (s : List Byte) : BU b0 (b.write s) :=
  BU_append (BU_startWrite h).1 (BU_startWrite h).2 s

theorem BU_writeRune {b0 b : Buffer} (h : BU b0 b) (r : Int) : BU b0 (b.writeRune r) :=
  BU_append (BU_startWrite h).1 (BU_startWrite h).2 _

theorem BU_writeByte {b0 b : Buffer} (h : BU b0 b) (x : Byte) : BU b0 (b.writeByte x) := by
  unfold Buffer.writeByte
  have ⟨h1, o1⟩ := BU_startWrite h
  simp only
  split
  · exact BU_write h1 _
  · exact BU_append h1 o1 _

end Redact
