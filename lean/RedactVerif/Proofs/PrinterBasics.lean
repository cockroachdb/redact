import RedactVerif.Model.Printer
/-
Basic vocabulary for proofs about the printer model: `ValOk` (embedded redactables are
obtainable), `Pre`/`G` (buffer invariant + frame), and the bracket (restorer) lemmas.
The case analyses of `Res.bind`, `bracket`, `leafWrite` and of `doPrint` on one operand are stated
for arbitrary predicates: the frames of `U/Basics.lean` and `S/Basics.lean` use them too.
-/
import RedactVerif.Proofs.BufferInv
namespace Redact

/- `ValOk`: every RedactableString/Bytes reachable in the value (also through user
methods' arguments and panic payloads) is an obtainable redactable. -/
mutual
def ValOk : Val → Prop
  | .nil => True
  | .leaf _ _ _ _ _ _ => True
  | .safeW v => ValOk v
  | .unsafeW v => ValOk v
  | .redactable c _ => Obtainable c
  | .meth _ _ _ _ _ _ sc under => ScriptOk sc ∧ ValOk under
  | .slice _ _ _ es => ValsOk es
  | .map _ _ _ _ ks vs => ValsOk ks ∧ ValsOk vs
  | .struct _ _ fs => FieldsOk fs
  | .ptrTo _ v => ValOk v
def ValsOk : Vals → Prop
  | .nil => True
  | .cons v r => ValOk v ∧ ValsOk r
def FieldsOk : Fields → Prop
  | .nil => True
  | .cons _ _ _ v r => ValOk v ∧ FieldsOk r
def ScriptOk : Script → Prop
  | .done => True
  | .safeString _ k => ScriptOk k
  | .unsafeString _ k => ScriptOk k
  | .safeRune _ k => ScriptOk k
  | .write _ k => ScriptOk k
  | .unsafeLeaf _ k => ScriptOk k
  | .print args k => ValsOk args ∧ ScriptOk k
  | .printf _ args k => ValsOk args ∧ ScriptOk k
  | .indep k => ScriptOk k
  | .panic payload => ValOk payload
end

def ListOk (l : List Val) : Prop := ∀ v ∈ l, ValOk v

theorem listOk_of_valsOk : (vs : Vals) → ValsOk vs → ListOk vs.toList
  | .nil, _ => by intro v hv; simp [Vals.toList] at hv
  | .cons x r, h => by
    intro v hv
    simp only [Vals.toList, List.mem_cons] at hv
    rcases hv with rfl | hv
    · exact h.1
    · exact listOk_of_valsOk r h.2 v hv

def EnvOk (env : Env) : Prop := ∀ h, env.hook = some h → ∀ r v, ScriptOk (h r v)

def Pre (p : PP) : Prop := Inv p.buf ∧ p.buf.mode ≠ .raw

def G (p q : PP) : Prop := Inv q.buf ∧ q.buf.mode = p.buf.mode ∧ q.override = p.override

theorem G.refl {p : PP} (h : Pre p) : G p p := ⟨h.1, rfl, rfl⟩
theorem G.trans {p q r : PP} (h1 : G p q) (h2 : G q r) : G p r :=
  ⟨h2.1, h2.2.1.trans h1.2.1, h2.2.2.trans h1.2.2⟩
theorem G.pre {p q : PP} (hp : Pre p) (h : G p q) : Pre q := ⟨h.1, by rw [h.2.1]; exact hp.2⟩

def GR (p : PP) (r : Res) : Prop :=
  (∀ q, r = .ok q → G p q) ∧ (∀ b pl, r = .panic b pl → Inv b ∧ ValOk pl)

theorem G_w {p : PP} (hp : Pre p) (s : List Byte) : G p (p.w s) :=
  ⟨inv_write_nr _ _ hp.1 hp.2, write_mode _ _, rfl⟩
theorem G_wb {p : PP} (hp : Pre p) (c : Byte) : G p (p.wb c) := by
  -- reduced first: unifying `(p.wb c).buf` with `_.writeByte _` as it stands unfolds `writeByte`
  dsimp only [G, PP.wb]
  exact ⟨inv_writeByte_nr _ _ hp.1 hp.2, writeByte_mode _ _, rfl⟩
theorem G_wr {p : PP} (hp : Pre p) (r : Int) : G p (p.wr r) :=
  ⟨inv_writeRune_nr _ _ hp.1 hp.2, writeRune_mode _ _, rfl⟩

theorem G_same {p q : PP} (hp : Pre p) (hb : q.buf = p.buf) (ho : q.override = p.override) : G p q :=
  ⟨by rw [hb]; exact hp.1, by rw [hb], ho⟩

/-- What `r.bind f` returns or raises was returned or raised by `f`, or raised by `r`. -/
theorem Res.bind_cases {r : Res} {f : PP → Res} {A : PP → Prop} {B : Buffer → Val → Prop}
    (hr : ∀ b pl, r = .panic b pl → B b pl)
    (hf : ∀ q1, r = .ok q1 → (∀ q, f q1 = .ok q → A q) ∧ (∀ b pl, f q1 = .panic b pl → B b pl)) :
    (∀ q, r.bind f = .ok q → A q) ∧ (∀ b pl, r.bind f = .panic b pl → B b pl) := by
  cases r with
  | ok q1 => exact hf q1 rfl
  | panic b pl => exact ⟨fun _ h => (nomatch h), fun _ _ h => by cases h; exact hr _ _ rfl⟩
  | _ => exact ⟨fun _ h => (nomatch h), fun _ _ h => nomatch h⟩

/-- What `bracket start p body` returns or raises is what `body` did, after the restorer. -/
theorem bracket_cases {start : PP → PP × PP.Restorer} {p : PP} {body : PP → Res}
    {A : PP → Prop} {B : Buffer → Val → Prop}
    (hok : ∀ q, body (start p).1 = .ok q → A (q.restore (start p).2))
    (hpanic : ∀ b pl, body (start p).1 = .panic b pl → B (b.setMode (start p).2.prevMode) pl) :
    (∀ q, bracket start p body = .ok q → A q) ∧ (∀ b pl, bracket start p body = .panic b pl → B b pl) := by
  unfold bracket
  generalize start p = sp at hok hpanic
  obtain ⟨q0, r⟩ := sp
  simp only at hok hpanic ⊢
  cases hb : body q0 with
  | ok q1 => exact ⟨fun _ h => by cases h; exact hok _ hb, fun _ _ h => nomatch h⟩
  | panic b pl => exact ⟨fun _ h => (nomatch h), fun _ _ h => by cases h; exact hpanic _ _ hb⟩
  | _ => exact ⟨fun _ h => (nomatch h), fun _ _ h => nomatch h⟩

theorem bracket_ok {start : PP → PP × PP.Restorer} {p : PP} {body : PP → Res} {q : PP}
    (h : bracket start p body = .ok q) : ∃ q1, body (start p).1 = .ok q1 ∧ q = q1.restore (start p).2 :=
  (bracket_cases (A := fun q => ∃ q1, body (start p).1 = .ok q1 ∧ q = q1.restore (start p).2)
    (B := fun _ _ => True) (fun q1 hq => ⟨q1, hq, rfl⟩) (fun _ _ _ => trivial)).1 q h

/-- A `start` that changes nothing, around a body that keeps mode and override: the restorer
puts back what is there, and `bracket` passes on what `body` did. -/
theorem bracket_same {start : PP → PP × PP.Restorer} {p : PP} {body : PP → Res}
    {A : PP → Prop} {B : Buffer → Val → Prop}
    (he : (start p).1 = p) (hr : (start p).2 = ⟨p.buf.mode, p.override⟩)
    (hA : ∀ q, A q → q.buf.mode = p.buf.mode ∧ q.override = p.override)
    (hB : ∀ b pl, B b pl → b.mode = p.buf.mode)
    (h : (∀ q, body p = .ok q → A q) ∧ (∀ b pl, body p = .panic b pl → B b pl)) :
    (∀ q, bracket start p body = .ok q → A q) ∧ (∀ b pl, bracket start p body = .panic b pl → B b pl) := by
  rw [← he] at h
  refine bracket_cases (fun q hq => ?_) (fun b pl hq => ?_) <;> rw [hr]
  · have a := h.1 q hq
    have e : q.restore ⟨p.buf.mode, p.override⟩ = q := by
      rw [PP.restore, setMode_same _ _ (hA q a).1, ← (hA q a).2]
    rwa [e]
  · have a := h.2 b pl hq
    rwa [setMode_same _ _ (hB b pl a)]

theorem G_restore {p q : PP} (h : Inv q.buf) : G p (q.restore ⟨p.buf.mode, p.override⟩) := by
  dsimp only [G, PP.restore]
  exact ⟨inv_setMode _ _ h, setMode_mode _ _, rfl⟩

theorem GR_bind {p : PP} {r : Res} {f : PP → Res} (h1 : GR p r) (h2 : ∀ q, G p q → GR q (f q)) : GR p (r.bind f) :=
  Res.bind_cases h1.2 fun q1 e =>
    ⟨fun q hq => G.trans (h1.1 q1 e) ((h2 q1 (h1.1 q1 e)).1 q hq), (h2 q1 (h1.1 q1 e)).2⟩

/-- `defer p.startX().restore()` around a body that keeps the frame. -/
theorem GR_bracket (start : PP → PP × PP.Restorer) (p : PP) (body : PP → Res) (hp : Pre p)
    (hstart : Pre (start p).1 ∧ (start p).2 = ⟨p.buf.mode, p.override⟩)
    (hbody : GR (start p).1 (body (start p).1)) : GR p (bracket start p body) := by
  have _ := hp
  refine bracket_cases (fun q hq => ?_) (fun b pl hq => ?_) <;> rw [hstart.2]
  · exact G_restore (hbody.1 q hq).1
  · exact ⟨inv_setMode _ _ (hbody.2 b pl hq).1, (hbody.2 b pl hq).2⟩

/-- The shape of every `startX`: a guarded switch to a mode other than raw. -/
theorem Pre.ite_setMode {p : PP} (hp : Pre p) (c : Prop) [Decidable c] {m : Mode} (hm : m ≠ .raw)
    (o : Override) : Pre (if c then { p with buf := p.buf.setMode m, override := o } else p) := by
  split
  · dsimp only [Pre]
    exact ⟨inv_setMode _ _ hp.1, by rw [setMode_mode]; exact hm⟩
  · exact hp

theorem start_safeOverride {p : PP} (hp : Pre p) :
    Pre p.startSafeOverride.1 ∧ p.startSafeOverride.2 = ⟨p.buf.mode, p.override⟩ :=
  ⟨hp.ite_setMode _ (by decide) _, rfl⟩

theorem start_unsafeOverride {p : PP} (hp : Pre p) :
    Pre p.startUnsafeOverride.1 ∧ p.startUnsafeOverride.2 = ⟨p.buf.mode, p.override⟩ :=
  ⟨hp.ite_setMode _ (by decide) _, rfl⟩

theorem start_unsafe {p : PP} (hp : Pre p) :
    Pre p.startUnsafe.1 ∧ p.startUnsafe.2 = ⟨p.buf.mode, p.override⟩ :=
  ⟨hp.ite_setMode _ (by decide) _, rfl⟩

theorem GR_ok {p q : PP} (h : G p q) : GR p (.ok q) :=
  ⟨fun q' hq => (by cases hq; exact h), fun b pl hq => (by cases hq)⟩

theorem GR_preRedactable (p : PP) (content : List Byte) (hp : Pre p) (hc : Obtainable content) :
    GR p (bracket PP.startPreRedactable p fun q => .ok (q.w content)) := by
  refine bracket_cases (fun q hq => ?_) (fun _ _ hq => nomatch hq)
  cases hq
  apply G_restore
  dsimp only [PP.startPreRedactable, PP.w]
  split
  · exact inv_write _ content (inv_setMode p.buf .raw hp.1) (fun _ => hc)
  · exact inv_write_nr _ content hp.1 hp.2

/-- The three ways `leafWrite` ends: a write in the ambient mode, a write under `startUnsafe`,
or a rendering the oracle table lacks. -/
theorem leafWrite_cases (env : Env) (p : PP) (id verb : Nat) (k : BK) (ty : List Byte) :
    (∃ s, leafWrite env p id verb k ty = .ok (p.w s)) ∨
    (∃ s, leafWrite env p id verb k ty = bracket PP.startUnsafe p fun q => .ok (q.w s)) ∨
    leafWrite env p id verb k ty = .unsupported := by
  unfold leafWrite leafWrite1
  split
  · exact .inl ⟨_, rfl⟩
  · split
    · exact .inr (.inr rfl)
    · split
      · exact .inr (.inr rfl)
      · exact .inr (.inl ⟨_, rfl⟩)

theorem GR_none (p : PP) {r : Res} (h1 : ∀ q, r ≠ .ok q) (h2 : ∀ b pl, r ≠ .panic b pl) : GR p r :=
  ⟨fun q hq => absurd hq (h1 q), fun b pl hq => absurd hq (h2 b pl)⟩

theorem GR_leafWrite (env : Env) (p : PP) (id verb : Nat) (k : BK) (ty : List Byte) (hp : Pre p) :
    GR p (leafWrite env p id verb k ty) := by
  rcases leafWrite_cases env p id verb k ty with ⟨s, e⟩ | ⟨s, e⟩ | e <;> rw [e]
  · exact GR_ok (G_w hp s)
  · exact GR_bracket _ _ _ hp (start_unsafe hp) (GR_ok (G_w (start_unsafe hp).1 s))
  · exact GR_none p (fun _ h => nomatch h) (fun _ _ h => nomatch h)

/-- `Sprint` of one operand is `printArg` on it in safe mode, with some fuel. -/
theorem doPrint_one {env : Env} {n : Nat} {p : PP} {v : Val} {q : PP} (ho : p.override ≠ .ovUnsafe)
    (h : doPrint env n p [v] = .ok q) :
    ∃ k, printArg env (k + 1) { p with buf := p.buf.setMode .safeEsc } v 118 = .ok q := by
  match n, h with
  | 0, h => simp only [doPrint] at h; cases h
  | 1, h => simp only [doPrint, doPrintLoop] at h; cases h
  | 2, h => simp only [doPrint, doPrintLoop, printArg, Res.bind] at h; cases h
  | k + 3, h =>
    refine ⟨k, ?_⟩
    simp only [doPrint, doPrintLoop, if_pos ho, Nat.lt_irrefl, false_and, if_false, gt_iff_lt] at h
    cases hr : printArg env (k + 1) { p with buf := p.buf.setMode .safeEsc } v 118 with
    | ok q' => rw [hr] at h; exact h
    | _ => rw [hr] at h; cases h

/-- `Sprint(v)` is `printArg` on `v` from the empty buffer in safe mode. -/
theorem sprint_one {env : Env} {n : Nat} {v : Val} {q : PP} (h : doPrint env n newPP [v] = .ok q) :
    ∃ k p, p.buf = { buf := [], validUntil := 0, mode := .safeEsc, markerOpen := false } ∧
      p.override = .no ∧ Pre p ∧ printArg env (k + 1) p v 118 = .ok q :=
  have ⟨k, hr⟩ := doPrint_one (by decide) h
  ⟨k, _, by decide, rfl, ⟨inv_setMode newPP.buf .safeEsc inv_init, by decide⟩, hr⟩

end Redact
