import RedactVerif.Proofs.Clean
import RedactVerif.Proofs.Sim
/-
Two runs of the printer on the same format and operands that differ in the *classification state*
they run under (override in force, buffer mode, where envelopes were opened) read the same once
markers are stripped, for fmt-only operands that may carry `Unsafe(…)` wrappers. The relation `ER` is
"both buffers are clean and have the same stripped reading", with `KInv` (Proofs/Plain.lean) supplying
what each buffer reads as. It does not constrain the overrides at all: one run may be under an unsafe
override while the other is not. In exchange the operands have no redact-specific dispatch (no
SafeFormatter, no SafeMessager, no error hook, no RedactableString/Bytes), so that the two runs still
execute the same program. `ER` is a logic of the printer (`ErU.logic`), so all 21 functions respect it
by the fundamental lemma of Proofs/Sim.lean (`espec_all`).

Instantiated with a second run that starts under a safe override, in which every write is appended
verbatim to the pending bytes (Proofs/S), this says: with markers stripped, the output is the text
the same printer writes when nothing is classified, with markers replaced by `?` — C04 on the model.

Hypotheses are otherwise those of `Clean.lean`: valid UTF-8 format, renderings and payloads ending in
complete characters. `Erase.lean` has the same relation with neither run under an unsafe override, for
operands with the redact-specific dispatch and without `Unsafe(…)`.
-/
namespace Redact

namespace ErU

/-- Both buffers are clean and read the same with markers stripped. -/
def BR (b b' : Buffer) : Prop := ∃ acc d d', KInv b acc d ∧ KInv b' acc d'

theorem BR.setMode {b b' : Buffer} (h : BR b b') (m m' : Mode) : BR (b.setMode m) (b'.setMode m') := by
  obtain ⟨a, d, d', k, k'⟩ := h
  exact ⟨a, d, d', setMode_K b m a d k, setMode_K b' m' a d' k'⟩

theorem pendPlainT_esc {m : Mode} (hm : m ≠ .raw) (s : List Byte) : pendPlainT m s = escT (tokenize s) := by
  unfold pendPlainT; rw [if_neg hm]

theorem BR.write {b b' : Buffer} (h : BR b b') (hm : b.mode ≠ .raw) (hm' : b'.mode ≠ .raw) {s : List Byte}
    (hs : EndsRune s) : BR (b.write s) (b'.write s) := by
  obtain ⟨a, d, d', k, k'⟩ := h
  have k1 := write_K b s a d k (fun h => absurd h hm) (fun _ => hs)
  have k2 := write_K b' s a d' k' (fun h => absurd h hm') (fun _ => hs)
  rw [pendPlainT_esc hm] at k1
  rw [pendPlainT_esc hm'] at k2
  exact ⟨_, _, _, k1, k2⟩

theorem BR.writeRaw {b b' : Buffer} (h : BR b b') (hm : b.mode = .raw) (hm' : b'.mode = .raw) {s : List Byte}
    (hs : Obtainable s ∧ RuneEnd (tokenize s)) : BR (b.write s) (b'.write s) := by
  obtain ⟨a, d, d', k, k'⟩ := h
  have k1 := write_K b s a d k (fun _ => hs) (fun h => absurd hm h)
  have k2 := write_K b' s a d' k' (fun _ => hs) (fun h => absurd hm' h)
  have e1 : pendPlainT b.mode s = stripT (tokenize s) := by unfold pendPlainT; rw [if_pos hm]
  have e2 : pendPlainT b'.mode s = stripT (tokenize s) := by unfold pendPlainT; rw [if_pos hm']
  rw [e1] at k1
  rw [e2] at k2
  exact ⟨_, _, _, k1, k2⟩

structure ER (p p' : PP) : Prop where
  f : p'.f = p.f
  erroring : p'.erroring = p.erroring
  panicking : p'.panicking = p.panicking
  wrapErrs : p'.wrapErrs = p.wrapErrs
  wrappedErr : p'.wrappedErr = p.wrappedErr
  reordered : p'.reordered = p.reordered
  goodArgNum : p'.goodArgNum = p.goodArgNum
  mode : p.buf.mode ≠ .raw
  mode' : p'.buf.mode ≠ .raw
  br : BR p.buf p'.buf

theorem ER.w {p p' : PP} (h : ER p p') {s : List Byte} (hs : EndsRune s) : ER (p.w s) (p'.w s) :=
  { h with
    mode := by show (p.buf.write s).mode ≠ _; rw [write_mode]; exact h.mode
    mode' := by show (p'.buf.write s).mode ≠ _; rw [write_mode]; exact h.mode'
    br := h.br.write h.mode h.mode' hs }

theorem ER.wr {p p' : PP} (h : ER p p') (r : Int) : ER (p.wr r) (p'.wr r) := by
  have e : p.wr r = p.w (encodeRune r) := rfl
  have e' : p'.wr r = p'.w (encodeRune r) := rfl
  rw [e, e']; exact h.w (endsRune_encodeRune r)

theorem ER.wb {p p' : PP} (h : ER p p') {c : Byte} (hc : c < 0x80) : ER (p.wb c) (p'.wb c) := by
  obtain ⟨a, d, d', k, k'⟩ := h.br
  have e : p.wb c = p.w [c] := by
    show ({ p with buf := p.buf.writeByte c } : PP) = { p with buf := p.buf.write [c] }
    rw [writeByte_ascii' p.buf c k.inv hc]
  have e' : p'.wb c = p'.w [c] := by
    show ({ p' with buf := p'.buf.writeByte c } : PP) = { p' with buf := p'.buf.write [c] }
    rw [writeByte_ascii' p'.buf c k'.inv hc]
  rw [e, e']
  exact h.w (endsRune_of_asc (fun x hx => by simp only [List.mem_singleton] at hx; rw [hx]; exact hc))

theorem ER.setErroring {p p' : PP} (h : ER p p') (e : Bool) : ER { p with erroring := e } { p' with erroring := e } :=
  { h with erroring := rfl }
theorem ER.setF {p p' : PP} (h : ER p p') (g : FmtS) : ER { p with f := g } { p' with f := g } :=
  { h with f := rfl }
theorem ER.setPanicking {p p' : PP} (h : ER p p') (e : Bool) : ER { p with panicking := e } { p' with panicking := e } :=
  { h with panicking := rfl }
theorem ER.setWrapped {p p' : PP} (h : ER p p') (w : Option Nat) (e : Bool) :
    ER { p with wrappedErr := w, wrapErrs := e } { p' with wrappedErr := w, wrapErrs := e } :=
  { h with wrappedErr := rfl, wrapErrs := rfl }
theorem ER.setWrappedErr {p p' : PP} (h : ER p p') (w : Option Nat) :
    ER { p with wrappedErr := w } { p' with wrappedErr := w } :=
  { h with wrappedErr := rfl }
theorem ER.setReordered {p p' : PP} (h : ER p p') (e : Bool) : ER { p with reordered := e } { p' with reordered := e } :=
  { h with reordered := rfl }
theorem ER.setGood {p p' : PP} (h : ER p p') (e : Bool) : ER { p with goodArgNum := e } { p' with goodArgNum := e } :=
  { h with goodArgNum := rfl }

/-- The nested printer of `SafePrinter.Print/Printf`: a fresh printer sharing buffer and override. -/
theorem ER.nested {p p' : PP} (h : ER p p') :
    ER ({ buf := p.buf, override := p.override } : PP) ({ buf := p'.buf, override := p'.override } : PP) :=
  ⟨rfl, rfl, rfl, rfl, rfl, rfl, rfl, h.mode, h.mode', h.br⟩

theorem ER.handBack {p p' : PP} (h : ER p p') {b b' : Buffer} (hb : BR b b') : ER (p.handBack b) (p'.handBack b') :=
  { h with
    mode := by show (b.setMode p.buf.mode).mode ≠ _; rw [setMode_mode]; exact h.mode
    mode' := by show (b'.setMode p'.buf.mode).mode ≠ _; rw [setMode_mode]; exact h.mode'
    br := hb.setMode _ _ }

/-- `doPrint`/`doPrintf` select safe mode, each run unless it is under an unsafe override. -/
theorem ER.setSafe {p p' : PP} (h : ER p p') : ER p.setSafe p'.setSafe := by
  unfold PP.setSafe
  have hm : ∀ (q : PP), (q.buf.setMode .safeEsc).mode ≠ .raw := fun q => by rw [setMode_mode]; decide
  by_cases h1 : p.override ≠ .ovUnsafe <;> by_cases h2 : p'.override ≠ .ovUnsafe
  · rw [if_pos h1, if_pos h2]; exact { h with mode := hm p, mode' := hm p', br := h.br.setMode _ _ }
  · rw [if_pos h1, if_neg h2]; exact { h with mode := hm p, br := by have := h.br.setMode .safeEsc p'.buf.mode; rwa [setMode_same _ _ rfl] at this }
  · rw [if_neg h1, if_pos h2]; exact { h with mode' := hm p', br := by have := h.br.setMode p.buf.mode .safeEsc; rwa [setMode_same _ _ rfl] at this }
  · rw [if_neg h1, if_neg h2]; exact h

theorem ER.refl {p : PP} (h : CI p) : ER p p := by
  obtain ⟨a, d, k⟩ := h.clean
  exact ⟨rfl, rfl, rfl, rfl, rfl, rfl, rfl, h.mode, h.mode, a, d, d, k, k⟩

/-! ### Values without redact-specific dispatch, otherwise clean as in `Clean.lean` -/

mutual
def ValE : Val → Prop
  | .nil => True
  | .leaf _ _ ty _ _ _ => Asc ty
  | .safeW v => ValE v
  | .unsafeW v => ValE v
  | .redactable _ _ => False
  | .meth ms ty _ _ _ _ sc under => (Asc ty ∧ ms.safeFormatter = false ∧ ms.safeMessager = false) ∧ ScriptE sc ∧ ValE under
  | .slice ty _ _ es => Asc ty ∧ ValsE es
  | .map ty _ _ _ ks vs => Asc ty ∧ ValsE ks ∧ ValsE vs
  | .struct ty _ fs => Asc ty ∧ FieldsE fs
  | .ptrTo ty v => Asc ty ∧ ValE v
def ValsE : Vals → Prop
  | .nil => True
  | .cons v r => ValE v ∧ ValsE r
def FieldsE : Fields → Prop
  | .nil => True
  | .cons name _ _ v r => EndsRune name ∧ ValE v ∧ FieldsE r
def ScriptE : Script → Prop
  | .done => True
  | .safeString s k => EndsRune s ∧ ScriptE k
  | .unsafeString s k => EndsRune s ∧ ScriptE k
  | .safeRune _ k => ScriptE k
  | .write s k => EndsRune s ∧ ScriptE k
  | .unsafeLeaf _ k => ScriptE k
  | .print args k => ValsE args ∧ ScriptE k
  | .printf f args k => FmtCl f ∧ ValsE args ∧ ScriptE k
  | .indep k => ScriptE k
  | .panic payload => ValE payload
end

def ListE (l : List Val) : Prop := ∀ v ∈ l, ValE v

structure EnvE (env : Env) : Prop where
  render : ∀ id d s, env.render id d = some s → EndsRune s
  hook : env.hook = none

theorem asc_typeNameE : (v : Val) → ValE v → Asc (typeName v)
  | .nil, _ => asc_nil
  | .leaf _ _ ty _ _ _, h => h
  | .safeW _, _ => by simp only [typeName]; exact asc_of_all (by decide)
  | .unsafeW _, _ => by simp only [typeName]; exact asc_of_all (by decide)
  | .redactable _ _, h => h.elim
  | .meth _ ty _ _ _ _ _ _, h => h.1.1
  | .slice ty _ _ _, h => h.1
  | .map ty _ _ _ _ _, h => h.1
  | .struct ty _ _, h => h.1
  | .ptrTo ty _, h => h.1

inductive RelR : Res → Res → Prop
  | ok {q q' : PP} : ER q q' → RelR (.ok q) (.ok q')
  | panic {b b' : Buffer} {pl : Val} : BR b b' → ValE pl → RelR (.panic b pl) (.panic b' pl)
  | fuel : RelR .fuel .fuel
  | unsupported : RelR .unsupported .unsupported

inductive RelS : SRes → SRes → Prop
  | ok {q q' : PP} : ER q q' → RelS (.ok q) (.ok q')
  | raised {q q' : PP} {pl : Val} : ER q q' → ValE pl → RelS (.raised q pl) (.raised q' pl)
  | abort {r r' : Res} : RelR r r' → RelS (.abort r) (.abort r')

structure RelH (a a' : Bool × Res) : Prop where
  fst : a'.1 = a.1
  snd : RelR a.2 a'.2

theorem rel_ite_s {c : Prop} [Decidable c] {a b a' b' : SRes} (ha : RelS a a') (hb : RelS b b') :
    RelS (if c then a else b) (if c then a' else b') := by
  split <;> assumption

structure StartER (start : PP → PP × PP.Restorer) : Prop where
  st : ∀ p p', ER p p' → ER (start p).1 (start p').1 ∧
    (start p).2 = ⟨p.buf.mode, p.override⟩ ∧ (start p').2 = ⟨p'.buf.mode, p'.override⟩

theorem ER.restore {p p' q q' : PP} (h : ER p p') (hq : ER q q') :
    ER (q.restore ⟨p.buf.mode, p.override⟩) (q'.restore ⟨p'.buf.mode, p'.override⟩) :=
  { hq with
    mode := by show (q.buf.setMode p.buf.mode).mode ≠ _; rw [setMode_mode]; exact h.mode
    mode' := by show (q'.buf.setMode p'.buf.mode).mode ≠ _; rw [setMode_mode]; exact h.mode'
    br := hq.br.setMode _ _ }

/-- Every `start*()` is a guarded switch of mode and override that remembers what it replaced; the two runs may
take different branches, since their overrides are unrelated. -/
theorem StartER.guarded (c : Override → Prop) [DecidablePred c] {m : Mode} (hm : m ≠ .raw) (o : Override → Override)
    {start : PP → PP × PP.Restorer}
    (hs : ∀ p, start p = (if c p.override then { p with buf := p.buf.setMode m, override := o p.override } else p,
      ⟨p.buf.mode, p.override⟩)) : StartER start := by
  refine ⟨fun p p' h => ?_⟩
  rw [hs, hs]
  refine ⟨?_, rfl, rfl⟩
  have hmm : ∀ q : PP, (q.buf.setMode m).mode ≠ .raw := fun q => by rw [setMode_mode]; exact hm
  by_cases h1 : c p.override <;> by_cases h2 : c p'.override <;> simp only [h1, h2, if_true, if_false]
  · exact { h with mode := hmm p, mode' := hmm p', br := h.br.setMode _ _ }
  · exact { h with mode := hmm p, br := by have := h.br.setMode m p'.buf.mode; rwa [setMode_same _ _ rfl] at this }
  · exact { h with mode' := hmm p', br := by have := h.br.setMode p.buf.mode m; rwa [setMode_same _ _ rfl] at this }
  · exact h

theorem startER_safeOverride : StartER PP.startSafeOverride := .guarded (· = .no) (by decide) (fun _ => .ovSafe) fun _ => rfl
theorem startER_unsafe : StartER PP.startUnsafe := .guarded (· ≠ .ovSafe) (m := .unsafeEsc) (by decide) id fun _ => rfl
theorem startER_unsafeOverride : StartER PP.startUnsafeOverride := .guarded (· = .no) (by decide) (fun _ => .ovUnsafe) fun _ => rfl


structure ESpec (env : Env) (n : Nat) : Prop where
  printArg : ∀ p p' v verb, ER p p' → ValE v → RelR (printArg env n p v verb) (printArg env n p' v verb)
  printArgBody : ∀ p p' v verb, ER p p' → ValE v → RelR (printArgBody env n p v verb) (printArgBody env n p' v verb)
  badVerb : ∀ p p' v verb via, ER p p' → ValE v → RelR (badVerb env n p v verb via) (badVerb env n p' v verb via)
  handleMethods : ∀ p p' v verb, ER p p' → ValE v → RelH (handleMethods env n p v verb) (handleMethods env n p' v verb)
  methDispatch : ∀ p p' v ms nr ret sc verb, ER p p' → ValE v → ScriptE sc → ms.safeFormatter = false → ms.safeMessager = false →
    RelH (methDispatch env n p v ms nr ret sc verb) (methDispatch env n p' v ms nr ret sc verb)
  fmtString : ∀ p p' v ret verb, ER p p' → ValE v → RelR (fmtString env n p v ret verb) (fmtString env n p' v ret verb)
  catchPanic : ∀ (p0 p0' : PP) (arg : Val) (verb : Nat) (m : List Byte) (nr : Bool) (out out' : SRes), Asc m → RelS out out' →
    RelR (catchPanic env n p0 arg verb m nr out) (catchPanic env n p0' arg verb m nr out')
  runScript : ∀ p p' sc, ER p p' → ScriptE sc → RelS (runScript env n p sc) (runScript env n p' sc)
  printValue : ∀ p p' v verb d ro, ER p p' → ValE v → RelR (printValue env n p v verb d ro) (printValue env n p' v verb d ro)
  printSlot : ∀ p p' v verb d i ro, ER p p' → ValE v → RelR (printSlot env n p v verb d i ro) (printSlot env n p' v verb d i ro)
  slotMethods : ∀ p p' v verb, ER p p' → ValE v → RelH (slotMethods env n p v verb) (slotMethods env n p' v verb)
  printFields : ∀ p p' fs verb d ro f, ER p p' → FieldsE fs →
    RelR (printFields env n p fs verb d ro f) (printFields env n p' fs verb d ro f)
  printElems : ∀ p p' vs verb d i ro f, ER p p' → ValsE vs →
    RelR (printElems env n p vs verb d i ro f) (printElems env n p' vs verb d i ro f)
  printPairs : ∀ p p' ks vs verb d ik iv ro f, ER p p' → ValsE ks → ValsE vs →
    RelR (printPairs env n p ks vs verb d ik iv ro f) (printPairs env n p' ks vs verb d ik iv ro f)
  doPrint : ∀ p p' args, ER p p' → ListE args → RelR (doPrint env n p args) (doPrint env n p' args)
  doPrintLoop : ∀ p p' args k ps, ER p p' → ListE args → RelR (doPrintLoop env n p args k ps) (doPrintLoop env n p' args k ps)
  doPrintf : ∀ p p' f args, ER p p' → FmtCl f → ListE args → RelR (doPrintf env n p f args) (doPrintf env n p' f args)
  fmtLoop : ∀ p p' f args k ai, ER p p' → FmtCl f → ListE args → RelR (fmtLoop env n p f args k ai) (fmtLoop env n p' f args k ai)
  directiveTail : ∀ p p' f args k ai, ER p p' → FmtCl f → ListE args →
    RelR (directiveTail env n p f args k ai) (directiveTail env n p' f args k ai)
  finishPrintf : ∀ p p' args k, ER p p' → ListE args → RelR (finishPrintf env n p args k) (finishPrintf env n p' args k)
  extraLoop : ∀ p p' args f, ER p p' → ListE args → RelR (extraLoop env n p args f) (extraLoop env n p' args f)

/-- `ER` as a logic of the printer: what is written ends in a complete character, formats are valid UTF-8, operands are
`ValE`. The tests of the method dispatch that look at the override fail in both runs, whatever the overrides: there is
no SafeFormatter, no SafeMessager and no error hook, and no redactable operand. -/
def logic (env : Env) (he : EnvE env) : LogicF Unit env env where
  toFormats := cleanFormats
  val _ := ValE
  vals _ := ValsE
  fields _ := FieldsE
  script _ := ScriptE
  meths _ ms _ := ms.safeFormatter = false ∧ ms.safeMessager = false
  leaf _ _ := True
  enter _ i := i
  val_declared h _ := h
  meths_leaf _ := trivial
  val_nil := trivial
  val_safeW h := h
  val_unsafeW h := h
  val_leaf h := ⟨trivial, endsRune_of_asc (asc_append (asc_append (asc_of_all (by decide)) h) (asc_of_all (by decide)))⟩
  val_meth h := ⟨h.1.2, h.2⟩
  val_slice h := ⟨endsRune_of_asc h.1, h.2⟩
  val_map h := ⟨endsRune_of_asc h.1, h.2⟩
  val_struct h := ⟨endsRune_of_asc h.1, h.2⟩
  val_ptrTo h := h.2
  val_redactable h := h.elim
  val_typeName h := ⟨endsRune_of_asc (asc_typeNameE _ h), fun f => endsRune_of_asc (asc_fmtSAscii f (asc_typeNameE _ h))⟩
  vals_cons h := h
  fields_cons h := h
  script_safeString h := h
  script_unsafeString h := h
  script_safeRune h := h
  script_write h := h
  script_unsafeLeaf h := ⟨trivial, h⟩
  script_print h := h
  script_printf h := h
  script_indep h := h
  script_panic h := h
  hook hh _ := by rw [he.hook] at hh; cases hh
  render hr := he.render _ _ _ hr
  R _ := ER
  T _ _ _ := ER
  TD _ _ _ := ER
  Pn _ _ := BR
  lag := False
  hook_eq := rfl
  messager _ _ _ := trivial
  f_eq h := h.f
  erroring_eq h := h.erroring
  panicking_eq h := h.panicking
  wrap_eq h _ := ⟨h.wrapErrs, h.wrappedErr⟩
  dispatch _ hm := by unfold SameDispatch; rw [hm.1, hm.2, he.hook]; simp
  ovUnsafe_redactable _ hv := hv.elim
  reordered_eq h := h.reordered
  goodArgNum_eq h := h.goodArgNum
  refl h := h
  trans _ h := h
  pre _ h := h
  Pn_trans _ h := h
  Pn_of_T h := h.br
  w h hs := h.w hs
  wb h hc := h.wb hc
  wr r h := h.wr r
  setF g h := h.setF g
  setPanicking e h := h.setPanicking e
  setWrapped x e h _ := h.setWrapped x e
  setWrappedErr x h _ := h.setWrappedErr x
  setReordered e h := h.setReordered e
  setGood e h := h.setGood e
  err_enter h := h.setErroring true
  err_exit _ g := g.setErroring false
  Starts := StartER
  starts_safeOverride := startER_safeOverride
  starts_unsafe := startER_unsafe
  starts_unsafeOverride _ := startER_unsafeOverride
  val_leave _ h := h
  start_in hs h := (hs.st _ _ h).1
  start_out hs h g := by rw [(hs.st _ _ h).2.1, (hs.st _ _ h).2.2]; exact h.restore g
  start_pn hs h hb := by rw [(hs.st _ _ h).2.1, (hs.st _ _ h).2.2]; exact hb.setMode _ _
  redactable _ hv := hv.elim
  nested_in h := h.nested
  nested_out h g := h.handBack g.br
  nested_pn h hb := h.handBack hb
  setSafe_in h := h.setSafe
  setSafe_out _ g := g
  setSafe_pn _ hb := hb

section
variable {env : Env} {he : EnvE env} {p p' : PP}

theorem relR_of {r r' : Res} (h : (logic env he).RelR () p p' r r') : RelR r r' := by
  cases h with
  | ok h => exact .ok h
  | panic hb hpl => exact .panic hb hpl
  | fuel => exact .fuel
  | unsupported => exact .unsupported
  | lagL hl => exact hl.elim

theorem relD_of {r r' : Res} (h : (logic env he).RelD () p p' r r') : RelR r r' :=
  relR_of (h.relR id)

theorem relS_of {o o' : SRes} (h : (logic env he).RelS () p p' o o') : RelS o o' := by
  cases h with
  | ok h => exact .ok h
  | raised h hpl => exact .raised h hpl
  | abort h => exact .abort (relR_of h)
  | lagL hl => exact hl.elim

theorem relH_of {a a' : Bool × Res} (h : (logic env he).RelH () p p' a a') : RelH a a' :=
  ⟨h.fst_eq id, relR_of h.snd⟩

theorem of_relR {r r' : Res} (h : RelR r r') : (logic env he).RelR () p p' r r' := by
  cases h with
  | ok h => exact .ok h
  | panic hb hpl => exact .panic hb hpl
  | fuel => exact .fuel
  | unsupported => exact .unsupported

theorem of_relS {o o' : SRes} (h : RelS o o') : (logic env he).RelS () p p' o o' := by
  cases h with
  | ok h => exact .ok h
  | raised h hpl => exact .raised h hpl
  | abort h => exact .abort (of_relR h)

end

/-- **Two runs that differ only in the classification state they start from read the same with
markers stripped**, through all 21 functions of the printer, at every fuel. -/
theorem espec_all (env : Env) (he : EnvE env) : ∀ n, ESpec env n := by
  intro n
  obtain ⟨A, B⟩ := LogicF.sim_all (logic env he) .same (fun _ h => h) n
  exact {
    printArg := fun p p' v verb h hv => relR_of (A.printArg () p p' v verb h hv trivial)
    printArgBody := fun p p' v verb h hv => relR_of (A.printArgBody () p p' v verb h hv trivial)
    badVerb := fun p p' v verb via h hv => relR_of (A.badVerb () p p' v verb via h hv)
    handleMethods := fun p p' v verb h hv => relH_of (A.handleMethods () p p' v verb h hv trivial)
    methDispatch := fun p p' v ms nr ret sc verb h hv hsc hsf hsm =>
      relH_of (A.methDispatch () p p' v ms nr ret sc verb h hv ⟨hsf, hsm⟩ hsc)
    fmtString := fun p p' v ret verb h hv => relR_of (A.fmtString () p p' v ret verb h (fun _ => hv) trivial)
    -- the transition does not look at the states the call started from: any related pair will do
    catchPanic := fun p0 p0' arg verb m nr out out' hm h =>
      relR_of (A.catchPanic () newPP newPP p0 p0' arg verb m nr out out' (.refl ci_newPP) (endsRune_of_asc hm) (of_relS h))
    runScript := fun p p' sc h hsc => relS_of (A.runScript () p p' sc h hsc)
    printValue := fun p p' v verb d ro h hv => relR_of (A.printValue () p p' v verb d ro h hv trivial)
    printSlot := fun p p' v verb d i ro h hv => relR_of (A.printSlot () p p' v verb d i ro h hv trivial)
    slotMethods := fun p p' v verb h hv => relH_of (A.slotMethods () p p' v verb h hv trivial)
    printFields := fun p p' fs verb d ro f h hv => relR_of (A.printFields () p p' fs verb d ro f h hv trivial)
    printElems := fun p p' vs verb d i ro f h hv => relR_of (A.printElems () p p' vs verb d i ro f h hv trivial)
    printPairs := fun p p' ks vs verb d ik iv ro f h hk hv => relR_of (A.printPairs () p p' ks vs verb d ik iv ro f h hk hv trivial)
    doPrint := fun p p' args h ha => relD_of (A.doPrint () p p' args h ha)
    doPrintLoop := fun p p' args k ps h ha => relR_of (A.doPrintLoop () p p' args k ps h ha)
    doPrintf := fun p p' f args h hf ha => relD_of (B.doPrintf () p p' f args h hf ha)
    fmtLoop := fun p p' f args k ai h hf ha => relR_of (B.fmtLoop () p p' f args k ai h hf ha)
    directiveTail := fun p p' f args k ai h hf ha => relR_of (B.directiveTail () p p' f args k ai h hf ha)
    finishPrintf := fun p p' args k h ha => relR_of (B.finishPrintf () p p' args k h ha)
    extraLoop := fun p p' args f h ha => relR_of (B.extraLoop () p p' args f h ha) }

end ErU
end Redact
