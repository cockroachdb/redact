import RedactVerif.Proofs.PrinterInv
import RedactVerif.Props.C10
/-
The vocabulary of `PrinterBasics.lean` re-read for printing under a `Safe` override: the same
names with the same shapes, so that the induction of `PrinterInv.lean` can be repeated on them.
Under the override the printer stays in safe mode and never touches the validated prefix of the
buffer: no envelope is opened. The one operand that would open envelopes of its own — a
RedactableString/RedactableBytes, which is copied as it is — is excluded (`ValOk` here says:
no such operand anywhere in the value, its methods' arguments or their panic payloads):
that is the property's "x without a classification of its own".
-/
namespace Redact.S

mutual
def ValOk : Val → Prop
  | .nil => True
  | .leaf _ _ _ _ _ _ => True
  | .safeW v => ValOk v
  | .unsafeW v => ValOk v
  | .redactable _ _ => False
  | .meth _ _ _ _ _ _ sc under => ScriptOk sc ∧ ValOk under
  | .slice _ _ _ es => ValsOk es
  | .map _ _ _ _ ks vs => ValsOk ks ∧ ValsOk vs
  | .struct _ _ fs => FieldsOk fs
  | .ptrTo _ v => ValOk v
def ValsOk : Vals → Prop
  | .nil => True
  | .cons v r => ValOk v ∧ ValsOk r
def FieldsOk : Fields → Prop
  | .nil => True
  | .cons _ _ _ v r => ValOk v ∧ FieldsOk r
def ScriptOk : Script → Prop
  | .done => True
  | .safeString _ k => ScriptOk k
  | .unsafeString _ k => ScriptOk k
  | .safeRune _ k => ScriptOk k
  | .write _ k => ScriptOk k
  | .unsafeLeaf _ k => ScriptOk k
  | .print args k => ValsOk args ∧ ScriptOk k
  | .printf _ args k => ValsOk args ∧ ScriptOk k
  | .indep k => ScriptOk k
  | .panic payload => ValOk payload
end

def ListOk (l : List Val) : Prop := ∀ v ∈ l, ValOk v

theorem listOk_of_valsOk : (vs : Vals) → ValsOk vs → ListOk vs.toList
  | .nil, _ => by intro v hv; simp [Vals.toList] at hv
  | .cons x r, h => by
    intro v hv
    simp only [Vals.toList, List.mem_cons] at hv
    rcases hv with rfl | hv
    · exact h.1
    · exact listOk_of_valsOk r h.2 v hv

def EnvOk (env : Env) : Prop := ∀ h, env.hook = some h → ∀ r v, ScriptOk (h r v)

/-- `b` was reached from `b0` by writes made under a `Safe` override: safe mode, and the
validated prefix (where all the envelopes are) is what it was. -/
structure BS (b0 b : Buffer) : Prop where
  inv : Inv b
  mode : b.mode = .safeEsc
  pre : b.pre = b0.pre

theorem BS.trans {a b c : Buffer} (h1 : BS a b) (h2 : BS b c) : BS a c := ⟨h2.inv, h2.mode, h2.pre.trans h1.pre⟩

theorem BS_append {b0 b : Buffer} (h : BS b0 b) (s : List Byte) : BS b0 (b.append s) := by
  have j := inv_append b s h.inv (fun hc => by rw [h.mode] at hc; cases hc.1) (fun hr => by rw [h.mode] at hr; cases hr)
  exact ⟨j, h.mode, (pre_append b s h.inv.le).trans h.pre⟩

theorem startWrite_safe {b : Buffer} (hm : b.mode = .safeEsc) : b.startWrite = b :=
  startWrite_noop b (fun hc => by rw [hm] at hc; cases hc.1)

theorem BS_write {b0 b : Buffer} (h : BS b0 b) (s : List Byte) : BS b0 (b.write s) := by
  unfold Buffer.write; rw [startWrite_safe h.mode]; exact BS_append h s

theorem BS_writeRune {b0 b : Buffer} (h : BS b0 b) (r : Int) : BS b0 (b.writeRune r) := by
  unfold Buffer.writeRune; rw [startWrite_safe h.mode]; exact BS_append h _

theorem BS_writeByte {b0 b : Buffer} (h : BS b0 b) (x : Byte) : BS b0 (b.writeByte x) := by
  unfold Buffer.writeByte
  rw [startWrite_safe h.mode]
  have : ¬ (b.mode = .unsafeEsc ∧ x ≥ 0x80) := fun hc => by rw [h.mode] at hc; cases hc.1
  simp only [this, if_false]
  exact BS_append h _

/-- Under a `Safe(…)` wrapper: safe mode, `overrideSafe`. -/
def Pre (p : PP) : Prop := Inv p.buf ∧ p.buf.mode = .safeEsc ∧ p.override = .ovSafe

def G (p q : PP) : Prop := BS p.buf q.buf ∧ q.override = p.override

theorem Pre.bs {p : PP} (h : Pre p) : BS p.buf p.buf := ⟨h.1, h.2.1, rfl⟩
theorem G.refl {p : PP} (h : Pre p) : G p p := ⟨h.bs, rfl⟩
theorem G.trans {p q r : PP} (h1 : G p q) (h2 : G q r) : G p r := ⟨BS.trans h1.1 h2.1, h2.2.trans h1.2⟩
theorem G.pre {p q : PP} (hp : Pre p) (h : G p q) : Pre q := ⟨h.1.inv, h.1.mode, by rw [h.2]; exact hp.2.2⟩

def GR (p : PP) (r : Res) : Prop :=
  (∀ q, r = .ok q → G p q) ∧ (∀ b pl, r = .panic b pl → BS p.buf b ∧ ValOk pl)

theorem G_w {p : PP} (hp : Pre p) (s : List Byte) : G p (p.w s) := ⟨BS_write hp.bs s, rfl⟩
theorem G_wb {p : PP} (hp : Pre p) (c : Byte) : G p (p.wb c) := by
  dsimp only [G, PP.wb]
  exact ⟨BS_writeByte hp.bs c, rfl⟩
theorem G_wr {p : PP} (hp : Pre p) (r : Int) : G p (p.wr r) := ⟨BS_writeRune hp.bs r, rfl⟩

theorem G_same {p q : PP} (hp : Pre p) (hb : q.buf = p.buf) (ho : q.override = p.override) : G p q :=
  ⟨by rw [hb]; exact hp.bs, ho⟩

theorem GR_bind {p : PP} {r : Res} {f : PP → Res} (h1 : GR p r) (h2 : ∀ q, G p q → GR q (f q)) : GR p (r.bind f) :=
  Res.bind_cases h1.2 fun q1 e =>
    have g := h1.1 q1 e
    ⟨fun q hq => G.trans g ((h2 q1 g).1 q hq),
      fun b pl hq => ⟨BS.trans g.1 ((h2 q1 g).2 b pl hq).1, ((h2 q1 g).2 b pl hq).2⟩⟩

/-- Under the override every `startX` met leaves the printer as it is, and its restorer restores what is already there. -/
theorem GR_bracket (start : PP → PP × PP.Restorer) (p : PP) (body : PP → Res) (hp : Pre p)
    (hstart : Pre (start p).1 ∧ (start p).2 = ⟨p.buf.mode, p.override⟩ ∧ (start p).1 = p)
    (hbody : GR (start p).1 (body (start p).1)) : GR p (bracket start p body) := by
  rw [hstart.2.2] at hbody
  exact bracket_same hstart.2.2 hstart.2.1 (fun _ g => ⟨g.1.mode.trans hp.2.1.symm, g.2⟩)
    (fun _ _ g => g.1.mode.trans hp.2.1.symm) hbody

theorem start_safeOverride {p : PP} (hp : Pre p) :
    Pre p.startSafeOverride.1 ∧ p.startSafeOverride.2 = ⟨p.buf.mode, p.override⟩ ∧ p.startSafeOverride.1 = p := by
  unfold PP.startSafeOverride
  have : ¬ (p.override = .no) := by rw [hp.2.2]; decide
  simp only [this, if_false]
  exact ⟨hp, trivial, trivial⟩

theorem start_unsafeOverride {p : PP} (hp : Pre p) :
    Pre p.startUnsafeOverride.1 ∧ p.startUnsafeOverride.2 = ⟨p.buf.mode, p.override⟩ ∧ p.startUnsafeOverride.1 = p := by
  unfold PP.startUnsafeOverride
  have : ¬ (p.override = .no) := by rw [hp.2.2]; decide
  simp only [this, if_false]
  exact ⟨hp, trivial, trivial⟩

/-- `UnsafeString` & co. under `Safe(…)`: the mode is left alone. -/
theorem start_unsafe {p : PP} (hp : Pre p) :
    Pre p.startUnsafe.1 ∧ p.startUnsafe.2 = ⟨p.buf.mode, p.override⟩ ∧ p.startUnsafe.1 = p := by
  unfold PP.startUnsafe
  have : ¬ (p.override ≠ .ovSafe) := by rw [hp.2.2]; decide
  simp only [this, if_false]
  exact ⟨hp, trivial, trivial⟩

theorem GR_ok {p q : PP} (h : G p q) : GR p (.ok q) :=
  ⟨fun q' hq => (by cases hq; exact h), fun b pl hq => (by cases hq)⟩

/-- Excluded: a value under `Safe(…)` here has no redactable operand. -/
theorem GR_preRedactable (p : PP) (content : List Byte) (_hp : Pre p) (hc : False) :
    GR p (bracket PP.startPreRedactable p fun q => .ok (q.w content)) := hc.elim

theorem GR_none (p : PP) {r : Res} (h1 : ∀ q, r ≠ .ok q) (h2 : ∀ b pl, r ≠ .panic b pl) : GR p r :=
  ⟨fun q hq => absurd hq (h1 q), fun b pl hq => absurd hq (h2 b pl)⟩

theorem GR_leafWrite (env : Env) (p : PP) (id verb : Nat) (k : BK) (ty : List Byte) (hp : Pre p) :
    GR p (leafWrite env p id verb k ty) := by
  rcases leafWrite_cases env p id verb k ty with ⟨s, e⟩ | ⟨s, e⟩ | e <;> rw [e]
  · exact GR_ok (G_w hp s)
  · exact GR_bracket _ _ _ hp (start_unsafe hp) (GR_ok (G_w (start_unsafe hp).1 s))
  · exact GR_none p (fun _ h => nomatch h) (fun _ _ h => nomatch h)

end Redact.S
