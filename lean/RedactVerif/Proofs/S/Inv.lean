import RedactVerif.Proofs.S.Basics
import RedactVerif.Proofs.Sim
/-
Printing under a `Safe` override (`S.Pre`), for values without a redactable operand (`S.ValOk`):
every function of the printer model, at every fuel, stays in safe mode under the override and
leaves the validated prefix of the buffer — where all envelopes are — as it was (`S.G`).
An instance of the fundamental lemma (`Proofs/Sim.lean`) with the vocabulary of `S/Basics.lean`.
-/
namespace Redact.S


def GS (p : PP) : SRes → Prop
  | .ok q => G p q
  | .raised q pl => G p q ∧ ValOk pl
  | .abort r => GR p r

/-- doPrint/doPrintf: under the override they keep the frame like every other function. -/
def D (p : PP) (r : Res) : Prop := GR p r

theorem GR_congr {p p1 : PP} {r : Res} (hb : p1.buf = p.buf) (ho : p1.override = p.override) (h : GR p1 r) : GR p r := by
  refine ⟨fun q hq => ?_, fun b pl hq => ?_⟩
  · have g := h.1 q hq
    exact ⟨by rw [← hb]; exact g.1, by rw [g.2, ho]⟩
  · have g := h.2 b pl hq
    exact ⟨by rw [← hb]; exact g.1, g.2⟩

theorem Pre_congr {p p1 : PP} (hb : p1.buf = p.buf) (hp : Pre p) (ho : p1.override = p.override := by rfl) : Pre p1 := by
  unfold Pre; rw [hb, ho]; exact hp

theorem GR_panic (p : PP) {b : Buffer} {pl : Val} (hi : BS p.buf b) (hv : ValOk pl) : GR p (.panic b pl) :=
  ⟨fun q hq => (by cases hq), fun b' pl' hq => (by cases hq; exact ⟨hi, hv⟩)⟩

theorem GR_from {p p1 : PP} {r : Res} (g : G p p1) (h : GR p1 r) : GR p r :=
  ⟨fun q hq => G.trans g (h.1 q hq), fun b pl hq => ⟨BS.trans g.1 (h.2 b pl hq).1, (h.2 b pl hq).2⟩⟩

structure Spec (env : Env) (n : Nat) : Prop where
  printArg : ∀ p v verb, Pre p → ValOk v → GR p (printArg env n p v verb)
  printArgBody : ∀ p v verb, Pre p → ValOk v → GR p (printArgBody env n p v verb)
  badVerb : ∀ p v verb via, Pre p → ValOk v → GR p (badVerb env n p v verb via)
  handleMethods : ∀ p v verb, Pre p → ValOk v → GR p (handleMethods env n p v verb).2
  methDispatch : ∀ p v ms nr ret sc verb, Pre p → ValOk v → ScriptOk sc → GR p (methDispatch env n p v ms nr ret sc verb).2
  fmtString : ∀ p v ret verb, Pre p → ValOk v → GR p (fmtString env n p v ret verb)
  catchPanic : ∀ p0 p arg verb m nr out, Pre p → GS p out → GR p (catchPanic env n p0 arg verb m nr out)
  runScript : ∀ p sc, Pre p → ScriptOk sc → GS p (runScript env n p sc)
  printValue : ∀ p v verb d ro, Pre p → ValOk v → GR p (printValue env n p v verb d ro)
  printSlot : ∀ p v verb d i ro, Pre p → ValOk v → GR p (printSlot env n p v verb d i ro)
  slotMethods : ∀ p v verb, Pre p → ValOk v → GR p (slotMethods env n p v verb).2
  printFields : ∀ p fs verb d ro f, Pre p → FieldsOk fs → GR p (printFields env n p fs verb d ro f)
  printElems : ∀ p vs verb d i ro f, Pre p → ValsOk vs → GR p (printElems env n p vs verb d i ro f)
  printPairs : ∀ p ks vs verb d ik iv ro f, Pre p → ValsOk ks → ValsOk vs → GR p (printPairs env n p ks vs verb d ik iv ro f)
  doPrint : ∀ p args, Pre p → ListOk args → D p (doPrint env n p args)
  doPrintLoop : ∀ p args k ps, Pre p → ListOk args → GR p (doPrintLoop env n p args k ps)
  doPrintf : ∀ p f args, Pre p → ListOk args → D p (doPrintf env n p f args)
  fmtLoop : ∀ p f args k ai, Pre p → ListOk args → GR p (fmtLoop env n p f args k ai)
  directiveTail : ∀ p f args k ai, Pre p → ListOk args → GR p (directiveTail env n p f args k ai)
  finishPrintf : ∀ p args k, Pre p → ListOk args → GR p (finishPrintf env n p args k)
  extraLoop : ∀ p args f, Pre p → ListOk args → GR p (extraLoop env n p args f)

theorem GS_raised_nil {p : PP} (hp : Pre p) : GS p (.raised p .nil) := ⟨G.refl hp, by simp [ValOk]⟩

theorem GS_ite_nil {p : PP} (hp : Pre p) (nr : Bool) (out : SRes) (h : GS p out) :
    GS p (if nr then .raised p .nil else out) := by
  split
  · exact GS_raised_nil hp
  · exact h

theorem GR_ite {p : PP} {c : Prop} [Decidable c] {a b : Res} (ha : GR p a) (hb : GR p b) : GR p (if c then a else b) := by
  split <;> assumption

/-- The nested printer hands the buffer back in the mode it was given: the deferred `SetMode` does nothing. -/
theorem G_nested {p : PP} {b : Buffer} (hp : Pre p) (h : BS p.buf b) : G p (p.handBack b) := by
  have : b.setMode p.buf.mode = b := setMode_same _ _ (by rw [h.mode, hp.2.1])
  exact ⟨by simp only [PP.handBack]; rw [this]; exact h, rfl⟩

/-- Under the override `doPrint`/`doPrintf` find the buffer in safe mode already. -/
theorem setSafe_eq {p : PP} (hp : Pre p) : p.setSafe = p := by
  unfold PP.setSafe
  have : p.override ≠ .ovUnsafe := by rw [hp.2.2]; decide
  rw [if_pos this, setMode_same _ _ hp.2.1]

theorem start_ok {start : PP → PP × PP.Restorer} (hs : IsStart start) {p : PP} (hp : Pre p) :
    Pre (start p).1 ∧ (start p).2 = ⟨p.buf.mode, p.override⟩ ∧ (start p).1 = p := by
  cases hs
  · exact start_safeOverride hp
  · exact start_unsafeOverride hp
  · exact start_unsafe hp

def frame (env : Env) (he : EnvOk env) : Frame env where
  toFormats := .any
  val _ := ValOk
  vals _ := ValsOk
  fields _ := FieldsOk
  script _ := ScriptOk
  meths _ _ _ := True
  leaf _ _ := True
  enter _ i := i
  val_declared h _ := h
  meths_leaf _ := trivial
  val_nil := trivial
  val_safeW h := h
  val_unsafeW h := h
  val_leaf _ := ⟨trivial, trivial⟩
  val_meth h := ⟨trivial, h⟩
  val_slice h := ⟨trivial, h⟩
  val_map h := ⟨trivial, h⟩
  val_struct h := ⟨trivial, h⟩
  val_ptrTo h := h
  val_redactable h := ⟨⟨h, trivial⟩, trivial⟩
  val_typeName _ := ⟨trivial, fun _ => trivial⟩
  vals_cons h := h
  fields_cons h := ⟨trivial, h⟩
  script_safeString h := ⟨trivial, h⟩
  script_unsafeString h := ⟨trivial, h⟩
  script_safeRune h := h
  script_write h := ⟨trivial, h⟩
  script_unsafeLeaf h := ⟨trivial, h⟩
  script_print h := h
  script_printf h := ⟨trivial, h⟩
  script_indep h := h
  script_panic h := h
  hook hh _ := he _ hh _
  render _ := trivial
  Pre := Pre
  G := G
  D := G
  B := BS
  refl := G.refl
  trans := G.trans
  pre := G.pre
  B_trans g h := BS.trans g.1 h
  B_of_G g := g.1
  w hp _ := G_w hp _
  wb hp _ := G_wb hp _
  wr _ hp := G_wr hp _
  setF _ hp := G_same hp rfl rfl
  setPanicking _ hp := G_same hp rfl rfl
  setWrapped _ _ hp _ := G_same hp rfl rfl
  setWrappedErr _ hp _ := G_same hp rfl rfl
  setReordered _ hp := G_same hp rfl rfl
  setGood _ hp := G_same hp rfl rfl
  err_enter hp := Pre_congr rfl hp
  err_exit hp g := G.trans (G_same hp rfl rfl) (G.trans g (G_same (G.pre (Pre_congr rfl hp) g) rfl rfl))
  start_in hs hp := (start_ok hs hp).1
  -- `GR_bracket` applied to a body that returns (or panics) at once
  start_out {start p q} hs hp g :=
    (GR_bracket start p (fun _ => .ok q) hp (start_ok hs hp) (GR_ok g)).1 _ (by simp [bracket])
  start_pn {start p b} hs hp hb :=
    ((GR_bracket start p (fun _ => .panic b .nil) hp (start_ok hs hp) (GR_panic _ hb (by simp [ValOk]))).2
      (b.setMode (start p).2.prevMode) .nil (by simp [bracket])).1
  redactable _ hc := (by simpa [ValOk] using hc : False).elim
  nested_in hp := hp
  nested_out hp g := G_nested hp g.1
  nested_pn hp hb := G_nested hp hb
  setSafe_in hp := by rw [setSafe_eq hp]; exact hp
  setSafe_out hp g := by rw [setSafe_eq hp] at g; exact g
  setSafe_pn hp h := by rw [setSafe_eq hp] at h; exact h

section
variable {env : Env} {he : EnvOk env} {p : PP}

theorem GR_of_ok {r : Res} (h : (frame env he).OkR p r) : GR p r :=
  ⟨fun _ hq => (hq ▸ h).ok, fun _ _ hq => (hq ▸ h).panic⟩

theorem D_of_ok {r : Res} (h : (frame env he).OkD p r) : D p r :=
  ⟨fun _ hq => (hq ▸ h).ok, fun _ _ hq => (hq ▸ h).panic⟩

theorem GS_of_ok {out : SRes} (h : (frame env he).OkS p out) : GS p out := by
  cases out with
  | ok q => exact h.ok
  | raised q pl => exact h.raised
  | abort r => exact GR_of_ok h.abort

theorem ok_of_GS {out : SRes} (h : GS p out) : (frame env he).OkS p out :=
  .mk (fun _ e => by subst e; exact h) (fun _ _ e => by subst e; exact h) (fun _ e => by subst e; exact .mk h.1 h.2)

end

/-- **Under a `Safe` override the whole printer opens no envelope**, at every fuel. -/
theorem spec_all (env : Env) (he : EnvOk env) : ∀ n, Spec env n := by
  intro n
  have S := (frame env he).spec_all (fun _ _ => trivial) n
  exact {
    printArg := fun p v verb hp hv => GR_of_ok (S.printArg p v verb hp hv trivial)
    printArgBody := fun p v verb hp hv => GR_of_ok (S.printArgBody p v verb hp hv trivial)
    badVerb := fun p v verb via hp hv => GR_of_ok (S.badVerb p v verb via hp hv)
    handleMethods := fun p v verb hp hv => GR_of_ok (S.handleMethods p v verb hp hv trivial)
    methDispatch := fun p v ms nr ret sc verb hp hv hsc => GR_of_ok (S.methDispatch p v ms nr ret sc verb hp hv trivial hsc)
    fmtString := fun p v ret verb hp hv => GR_of_ok (S.fmtString p v ret verb hp hv trivial)
    catchPanic := fun p0 p arg verb m nr out hp hout => GR_of_ok (S.catchPanic p p0 arg verb m nr out hp trivial (ok_of_GS hout))
    runScript := fun p sc hp hsc => GS_of_ok (S.runScript p sc hp hsc)
    printValue := fun p v verb d ro hp hv => GR_of_ok (S.printValue p v verb d ro hp hv trivial)
    printSlot := fun p v verb d i ro hp hv => GR_of_ok (S.printSlot p v verb d i ro hp hv trivial)
    slotMethods := fun p v verb hp hv => GR_of_ok (S.slotMethods p v verb hp hv trivial)
    printFields := fun p fs verb d ro f hp hfs => GR_of_ok (S.printFields p fs verb d ro f hp hfs trivial)
    printElems := fun p vs verb d i ro f hp hvs => GR_of_ok (S.printElems p vs verb d i ro f hp hvs trivial)
    printPairs := fun p ks vs verb d ik iv ro f hp hks hvs => GR_of_ok (S.printPairs p ks vs verb d ik iv ro f hp hks hvs trivial)
    doPrint := fun p args hp ha => D_of_ok (S.doPrint p args hp ha)
    doPrintLoop := fun p args k ps hp ha => GR_of_ok (S.doPrintLoop p args k ps hp ha)
    doPrintf := fun p f args hp ha => D_of_ok (S.doPrintf p f args hp trivial ha)
    fmtLoop := fun p f args k ai hp ha => GR_of_ok (S.fmtLoop p f args k ai hp trivial ha)
    directiveTail := fun p f args k ai hp ha => GR_of_ok (S.directiveTail p f args k ai hp trivial ha)
    finishPrintf := fun p args k hp ha => GR_of_ok (S.finishPrintf p args k hp ha)
    extraLoop := fun p args f hp ha => GR_of_ok (S.extraLoop p args f hp ha) }

end Redact.S
