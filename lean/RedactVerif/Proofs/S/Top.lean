import RedactVerif.Proofs.S.Inv
namespace Redact.S

/-- **`Safe(x)` as an operand, anywhere** (`x` without a redactable operand): the printing of
the operand happens in safe mode and leaves the validated prefix of the buffer — every envelope
written so far — as it was; the operand's bytes are pending safe text. Whatever `x` is:
`Unsafe(…)` wrappers inside it, unsafe leaves, formatters calling `UnsafeString`, errors,
panicking methods. -/
theorem safe_operand (env : Env) (he : EnvOk env) (n : Nat) (p : PP) (v : Val) (verb : Nat)
    (hp : Redact.Pre p) (ho : p.override = .no) (hm : p.buf.mode = .safeEsc) (hv : ValOk v) (q : PP)
    (h : printArg env (n + 1) p (.safeW v) verb = .ok q) :
    Inv q.buf ∧ q.buf.mode = .safeEsc ∧ q.override = .no ∧ q.buf.pre = p.buf.pre := by
  simp only [printArg] at h
  obtain ⟨q', heq, rfl⟩ := bracket_ok h
  have es : p.startSafeOverride.1 = { p with override := .ovSafe } := by
    unfold PP.startSafeOverride
    rw [if_pos ho, setMode_same _ _ hm]
  rw [es] at heq
  have hp' : Pre ({ p with override := .ovSafe } : PP) := ⟨hp.1, hm, rfl⟩
  have g := ((spec_all env he n).printArg _ v verb hp' hv).1 q' heq
  dsimp only [PP.restore, PP.startSafeOverride]
  rw [setMode_same _ _ (g.1.mode.trans hm.symm)]
  exact ⟨g.1.inv, g.1.mode, ho, g.1.pre⟩

/-- **`Sprint(Safe(x))` contains no marker at all** (`x` without a redactable operand):
no envelope is opened, and any marker character `x` prints is escaped. -/
theorem sprint_safe_no_envelope (env : Env) (he : EnvOk env) (v : Val) (hv : ValOk v) (n : Nat) (q : PP)
    (h : doPrint env n newPP [.safeW v] = .ok q) :
    ∀ t ∈ tokenize q.buf.redactableBytes, t.isMarker = false := by
  obtain ⟨k, p1, e1, ho, hp, hr⟩ := sprint_one h
  have ⟨i, m, _, hpre⟩ := safe_operand env he k p1 v 118 hp ho (by rw [e1]) hv q hr
  have hpre0 : q.buf.pre = [] := by rw [hpre, e1]; rfl
  have hm : q.buf.mode ≠ .raw := by rw [m]; decide
  have hdec : decide (q.buf.mode = .unsafeEsc) = false := by rw [m]; decide
  have oo : q.buf.markerOpen = false := by
    cases hmo : q.buf.markerOpen with
    | false => rfl
    | true => have := i.openMode hmo; rw [m] at this; cases this
  unfold Buffer.redactableBytes
  rw [finalize_esc_closed _ hm oo, hdec, tokenize_escapeToEnd _ i, hpre0, escTok_false_eq]
  have hE := escT_no_marker (tokenize q.buf.suf)
  intro t ht
  split at ht
  · simp only [tokenize_nil, List.nil_append, List.mem_append, List.mem_singleton] at ht
    rcases ht with ht | rfl
    · exact hE t ht
    · rfl
  · simp only [tokenize_nil, List.nil_append] at ht
    exact hE t ht

end Redact.S
