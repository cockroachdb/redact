import RedactVerif.Model.Markers
/-
Helper lemmas about `tokenize` / `untok`: round trip, synchronisation at
markers, append under the no-dangling condition.
-/
namespace Redact

@[simp] theorem untok_nil : untok [] = [] := rfl
@[simp] theorem untok_cons (t : Tok) (r : List Tok) : untok (t :: r) = t.bytes ++ untok r := rfl

theorem untok_append (a b : List Tok) : untok (a ++ b) = untok a ++ untok b := by
  induction a with
  | nil => simp
  | cons t r ih => simp [ih]

theorem untok_tokenize (l : List Byte) : untok (tokenize l) = l := by
  fun_induction tokenize l <;> simp_all [Tok.bytes, startB, endB]

theorem tokenize_injective {a b : List Byte} (h : tokenize a = tokenize b) : a = b := by
  rw [← untok_tokenize a, ← untok_tokenize b, h]

@[simp] theorem tokenize_nil : tokenize [] = [] := by simp [tokenize]

@[simp] theorem tokenize_start (r : List Byte) : tokenize (0xE2 :: 0x80 :: 0xB9 :: r) = .s :: tokenize r := by
  simp [tokenize]

@[simp] theorem tokenize_end (r : List Byte) : tokenize (0xE2 :: 0x80 :: 0xBA :: r) = .e :: tokenize r := by
  simp [tokenize]

theorem tokenize_plain (x : Byte) (r : List Byte)
    (h1 : ∀ r', x = 0xE2 → r = 0x80 :: 0xB9 :: r' → False)
    (h2 : ∀ r', x = 0xE2 → r = 0x80 :: 0xBA :: r' → False) :
    tokenize (x :: r) = .b x :: tokenize r := by
  rw [tokenize.eq_3 x r h1 h2]

theorem tokenize_plain_ne (x : Byte) (r : List Byte) (hx : x ≠ 0xE2) :
    tokenize (x :: r) = .b x :: tokenize r :=
  tokenize_plain x r (fun _ h _ => hx h) (fun _ h _ => hx h)

/-- Tokenisation resynchronises at every `E2`: that byte occurs only as the
first byte of a marker, so no match starting earlier can swallow it. -/
theorem tokenize_append_E2 (a c : List Byte) :
    tokenize (a ++ 0xE2 :: c) = tokenize a ++ tokenize (0xE2 :: c) := by
  fun_induction tokenize a with
  | case1 r ih => simp [ih]
  | case2 r ih => simp [ih]
  | case3 x r h1 h2 ih =>
    -- a marker tail `80 z` before the appended `E2` lies within `r`
    have key : ∀ z r', z ≠ 0xE2 → r ++ 0xE2 :: c = 0x80 :: z :: r' → ∃ r'', r = 0x80 :: z :: r'' := by
      intro z r' hz hr
      match r, hr with
      | [], hr => simp at hr
      | [y], hr => simp at hr; exact (hz hr.2.1.symm).elim
      | y :: w :: r'', hr => simp at hr; exact ⟨r'', by simp [hr.1, hr.2.1]⟩
    rw [List.cons_append, tokenize_plain x (r ++ 0xE2 :: c), ih]
    · rfl
    · exact fun r' hx hr => (key _ r' (by decide) hr).elim fun r'' e => h1 r'' hx e
    · exact fun r' hx hr => (key _ r' (by decide) hr).elim fun r'' e => h2 r'' hx e
  | case4 => rfl

/-- A marker in the input is always found, whatever precedes it. -/
theorem tokenize_append_start (a c : List Byte) :
    tokenize (a ++ (startB ++ c)) = tokenize a ++ .s :: tokenize c := by
  simp [startB, tokenize_append_E2]

theorem tokenize_append_end (a c : List Byte) :
    tokenize (a ++ (endB ++ c)) = tokenize a ++ .e :: tokenize c := by
  simp [endB, tokenize_append_E2]

/-- Appending one byte appends one plain token, unless the byte completes a
marker whose first two bytes end `a`. -/
theorem tokenize_snoc (a : List Byte) (x : Byte)
    (h : ¬ ((∃ t, a.reverse = 0x80 :: 0xE2 :: t) ∧ (x = 0xB9 ∨ x = 0xBA))) :
    tokenize (a ++ [x]) = tokenize a ++ [.b x] := by
  fun_induction tokenize a with
  | case1 r ih =>
    simp [ih fun ⟨⟨t, ht⟩, hx⟩ => h ⟨⟨t ++ [0xB9, 0x80, 0xE2], by simp [ht]⟩, hx⟩]
  | case2 r ih =>
    simp [ih fun ⟨⟨t, ht⟩, hx⟩ => h ⟨⟨t ++ [0xBA, 0x80, 0xE2], by simp [ht]⟩, hx⟩]
  | case3 y r h1 h2 ih =>
    -- a marker tail `80 z` after `y = E2` lies within `r`, or `h` forbids it
    have key : ∀ z r', y = 0xE2 → z = 0xB9 ∨ z = 0xBA → r ++ [x] = 0x80 :: z :: r' →
        ∃ r'', r = 0x80 :: z :: r'' := by
      intro z r' hy hz hr
      match r, hr with
      | [], hr => simp at hr
      | [w], hr => simp at hr; exact (h ⟨⟨[], by simp [hy, hr.1]⟩, hr.2.1 ▸ hz⟩).elim
      | w :: v :: r'', hr => simp at hr; exact ⟨r'', by simp [hr.1, hr.2.1]⟩
    rw [List.cons_append, tokenize_plain y (r ++ [x]),
      ih fun ⟨⟨t, ht⟩, hx⟩ => h ⟨⟨t ++ [y], by simp [ht]⟩, hx⟩]
    · rfl
    · exact fun r' hy hr => (key _ r' hy (.inl rfl) hr).elim fun r'' e => h1 r'' hy e
    · exact fun r' hy hr => (key _ r' hy (.inr rfl) hr).elim fun r'' e => h2 r'' hy e
  | case4 => simp [tokenize_plain]

end Redact
