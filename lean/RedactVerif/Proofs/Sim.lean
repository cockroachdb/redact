import RedactVerif.Proofs.Ascii
import RedactVerif.Proofs.Slot
import RedactVerif.Proofs.Suffix
/-
The fundamental lemma of the printer model.

A *logic* of the printer (`Logic`) is a precondition `R i p p'` on a pair of printer states and a
transition `T i p p' q q'` ("the related inputs `p`, `p'` have led to the outputs `q`, `q'`") that every
primitive step of the printer respects: writes, updates of the bookkeeping fields, the
`defer p.startX().restore()` brackets, the `erroring` bracket of `badVerb`, the hand-over of the buffer
to and from a nested printer; together with a predicate on operands given by what it implies for
their parts. Both may depend on a context `i` that the brackets move (`enter`); most logics have none
(`ι := Unit`). The lemma: a logic is respected by all 21 functions of `Model/Printer.lean`, at every
fuel (`simA_step` for the 16 functions reachable from `doPrint`, `simB_step` for the `doPrintf`
family, `sim_all`). The two runs have fuels of their own (with `lag` the first may have less:
`sim_lag`) and oracles of their own (`env`, `env'`; `Leaves` is what the logic owes for them).

Every invariant and every two-run relation of the printer in this development is an instance: a
one-run frame `G p q` is the diagonal `R _ p p' := p' = p ∧ Pre p`, `T _ p _ q q' := q' = q ∧ G p q`.
The two runs execute the same program text, so a step lemma only has to make the conditions of the
two sides syntactically equal (the agreement fields) and then follow the shared shape.
-/
namespace Redact

/-- The three `start*()` that bracket a sub-print; the fourth, `startPreRedactable`, only ever
brackets the raw copy of a redactable (`Logic.redactable`). -/
inductive IsStart : (PP → PP × PP.Restorer) → Prop
  | safeOverride : IsStart PP.startSafeOverride
  | unsafeOverride : IsStart PP.startUnsafeOverride
  | unsafeMode : IsStart PP.startUnsafe

/-- `doPrint`/`doPrintf` select safe mode unless an `Unsafe(…)` is in force. -/
def PP.setSafe (p : PP) : PP := if p.override ≠ .ovUnsafe then { p with buf := p.buf.setMode .safeEsc } else p

/-- The printer that `SafePrinter.Print/Printf` runs: the caller's buffer and override, fresh otherwise. -/
def PP.nested (p : PP) : PP := { buf := p.buf, override := p.override }

/-- The caller takes the buffer back in the mode it had. -/
def PP.handBack (p : PP) (b : Buffer) : PP := { p with buf := b.setMode p.buf.mode }

/-- The three tests of `methDispatch` that look at the override come out the same in both runs. -/
def SameDispatch (env : Env) (p p' : PP) (ms : Methods) : Prop :=
  ((p'.override ≠ .ovUnsafe ∧ ms.safeFormatter = true) ↔ (p.override ≠ .ovUnsafe ∧ ms.safeFormatter = true)) ∧
  ((p'.override ≠ .ovUnsafe ∧ ms.safeMessager = true) ↔ (p.override ≠ .ovUnsafe ∧ ms.safeMessager = true)) ∧
  ((p'.override ≠ .ovUnsafe ∧ ms.isError = true ∧ env.hook.isSome = true) ↔
    (p.override ≠ .ovUnsafe ∧ ms.isError = true ∧ env.hook.isSome = true))

theorem sameDispatch_of_eq {env : Env} {p p' : PP} (h : p'.override = p.override) (ms : Methods) :
    SameDispatch env p p' ms := by
  unfold SameDispatch; rw [h]; exact ⟨Iff.rfl, Iff.rfl, Iff.rfl⟩

/-- The byte strings that may be written, the verbs and the formats a logic admits. -/
structure Formats where
  W : List Byte → Prop
  /-- The printer only asks whether `w` (119) is admitted: `%w` is where the capture fields are read and
  assigned. `v` (118) always is: operands are printed again under it. -/
  Vb : Nat → Prop
  Fm : List Byte → Prop
  /-- the formats of a method's nested `Printf` -/
  FmN : List Byte → Prop
  W_asc : ∀ {s}, Asc s → W s
  Vb_v : Vb 118
  -- the admitted formats are closed under the directive parser's stages
  Fm_lit : ∀ {f}, Fm f → W (f.takeWhile (· ≠ 0x25))
  Fm_percent : ∀ {f c r}, Fm f → f.dropWhile (· ≠ 0x25) = c :: r → Fm r
  Fm_flags : ∀ {r} (st : FState), Fm r → Fm (parseFlags true st r).2
  /-- the fast path: an ASCII verb right after the flags -/
  Fm_ascii : ∀ {c : Byte} {r}, Fm (c :: r) → c < 0x80 → Vb c.toNat ∧ Fm r
  Fm_argNumber : ∀ {r} (p : PP) (k n : Nat), Fm r → Fm (argNumber p k r n).2.2.1
  Fm_width : ∀ {r} (p : PP) (args : List Val) (k : Nat) (ai : Bool), Fm r → Fm (widthStage p args k r ai).2.2.1
  Fm_prec : ∀ {r} (p : PP) (args : List Val) (k : Nat) (ai : Bool), Fm r → Fm (precStage p args k r ai).2.2.1
  Fm_verb : ∀ {r verb r'}, Fm r → decodeVerb r = some (verb, r') → Vb verb ∧ Fm r'

def Formats.any : Formats where
  W _ := True
  Vb _ := True
  Fm _ := True
  FmN _ := True
  W_asc _ := trivial
  Vb_v := trivial
  Fm_lit _ := trivial
  Fm_percent _ _ := trivial
  Fm_flags _ _ := trivial
  Fm_ascii _ _ := ⟨trivial, trivial⟩
  Fm_argNumber _ _ _ _ := trivial
  Fm_width _ _ _ _ _ := trivial
  Fm_prec _ _ _ _ _ := trivial
  Fm_verb _ _ := ⟨trivial, trivial⟩

/-- What a logic admits: formats, and a predicate on operands given by what it implies for their parts. The
predicate may depend on a context `i : ι` (the override in force, for a logic that distinguishes what is printed under
`Safe(…)`); `enter start i` is the context inside a `defer p.startX().restore()` bracket. -/
structure Operands (ι : Type) (env : Env) extends Formats where
  val : ι → Val → Prop
  vals : ι → Vals → Prop
  fields : ι → Fields → Prop
  script : ι → Script → Prop
  /-- the method set of a value and the leaf its `String`/`Error`/`GoString`/`SafeMessage` returns -/
  meths : ι → Methods → Nat → Prop
  /-- what is asked of a leaf whose rendering is written -/
  leaf : ι → Nat → Prop
  enter : (PP → PP × PP.Restorer) → ι → ι
  val_nil : ∀ {i}, val i .nil
  val_safeW : ∀ {i v}, val i (.safeW v) → val (enter PP.startSafeOverride i) v
  val_unsafeW : ∀ {i v}, val i (.unsafeW v) → val (enter PP.startUnsafeOverride i) v
  /-- a value of a registered type, or one with a `SafeValue` method, is printed under the safe override -/
  val_declared : ∀ {i v}, val i v → isRegistered v = true ∨ isSafeValue v = true → val (enter PP.startSafeOverride i) v
  val_leaf : ∀ {i id k ty iv sv reg}, val i (.leaf id k ty iv sv reg) →
    -- "(" ++ ty ++ ")(nil)"
    leaf i id ∧ W ([0x28] ++ ty ++ ([0x29, 0x28, 0x6E, 0x69, 0x6C, 0x29] : List UInt8))
  val_meth : ∀ {i ms ty sv reg nr ret sc u}, val i (.meth ms ty sv reg nr ret sc u) → meths i ms ret ∧ script i sc ∧ val i u
  val_slice : ∀ {i ty n ifc es}, val i (.slice ty n ifc es) → W ty ∧ vals i es
  val_map : ∀ {i ty n ik iv ks vs}, val i (.map ty n ik iv ks vs) → W ty ∧ vals i ks ∧ vals i vs
  val_struct : ∀ {i ty reg fs}, val i (.struct ty reg fs) → W ty ∧ fields i fs
  val_ptrTo : ∀ {i ty v}, val i (.ptrTo ty v) → val i v
  /-- a redactable found in an interface-typed slot prints itself through its own `SafeFormat` -/
  val_redactable : ∀ {i c ty}, val i (.redactable c ty) → script i (.print (.cons (.redactable c ty) .nil) .done)
  val_typeName : ∀ {i v}, val i v → W (typeName v) ∧ ∀ f, W (fmtSAscii f (typeName v))
  vals_cons : ∀ {i v r}, vals i (.cons v r) → val i v ∧ vals i r
  fields_cons : ∀ {i name e it v r}, fields i (.cons name e it v r) → W name ∧ val i v ∧ fields i r
  meths_leaf : ∀ {i ms ret}, meths i ms ret → leaf i ret
  script_safeString : ∀ {i s k}, script i (.safeString s k) → W s ∧ script i k
  script_unsafeString : ∀ {i s k}, script i (.unsafeString s k) → W s ∧ script i k
  script_safeRune : ∀ {i r k}, script i (.safeRune r k) → script i k
  script_write : ∀ {i s k}, script i (.write s k) → W s ∧ script i k
  script_unsafeLeaf : ∀ {i id k}, script i (.unsafeLeaf id k) → leaf i id ∧ script i k
  script_print : ∀ {i args k}, script i (.print args k) → vals i args ∧ script i k
  script_printf : ∀ {i f args k}, script i (.printf f args k) → FmN f ∧ vals i args ∧ script i k
  script_indep : ∀ {i k}, script i (.indep k) → script i k
  script_panic : ∀ {i pl}, script i (.panic pl) → val i pl
  hook : ∀ {i h ms ret}, env.hook = some h → meths i ms ret → ∀ verb, script i (h ret verb)
  render : ∀ {id d s}, env.render id d = some s → W s

namespace Operands
variable {ι : Type} {env : Env} (L : Operands ι env)

def list (i : ι) (l : List Val) : Prop := ∀ v ∈ l, L.val i v

variable {i : ι}

theorem list_toList : (vs : Vals) → L.vals i vs → L.list i vs.toList
  | .nil, _ => by intro v hv; simp [Vals.toList] at hv
  | .cons x r, h => by
    intro v hv
    simp only [Vals.toList, List.mem_cons] at hv
    rcases hv with rfl | hv
    · exact (L.vals_cons h).1
    · exact list_toList r (L.vals_cons h).2 v hv

theorem list_cons {a : Val} {l : List Val} (h : L.list i (a :: l)) : L.val i a ∧ L.list i l :=
  ⟨h a (by simp), fun v hv => h v (by simp [hv])⟩
theorem list_drop {l : List Val} (h : L.list i l) (k : Nat) : L.list i (l.drop k) :=
  fun v hv => h v (List.mem_of_mem_drop hv)
theorem list_get {l : List Val} (h : L.list i l) {k : Nat} {a : Val} (ha : l[k]? = some a) : L.val i a :=
  h a (List.mem_of_getElem? ha)

def any (env : Env) : Operands Unit env where
  toFormats := .any
  val _ _ := True
  vals _ _ := True
  fields _ _ := True
  script _ _ := True
  meths _ _ _ := True
  leaf _ _ := True
  enter _ _ := ()
  val_nil := trivial
  val_safeW _ := trivial
  val_unsafeW _ := trivial
  val_declared _ _ := trivial
  val_leaf _ := ⟨trivial, trivial⟩
  val_meth _ := ⟨trivial, trivial, trivial⟩
  val_slice _ := ⟨trivial, trivial⟩
  val_map _ := ⟨trivial, trivial, trivial⟩
  val_struct _ := ⟨trivial, trivial⟩
  val_ptrTo _ := trivial
  val_redactable _ := trivial
  val_typeName _ := ⟨trivial, fun _ => trivial⟩
  vals_cons _ := ⟨trivial, trivial⟩
  fields_cons _ := ⟨trivial, trivial, trivial⟩
  meths_leaf _ := trivial
  script_safeString _ := ⟨trivial, trivial⟩
  script_unsafeString _ := ⟨trivial, trivial⟩
  script_safeRune _ := trivial
  script_write _ := ⟨trivial, trivial⟩
  script_unsafeLeaf _ := ⟨trivial, trivial⟩
  script_print _ := ⟨trivial, trivial⟩
  script_printf _ := ⟨trivial, trivial, trivial⟩
  script_indep _ := trivial
  script_panic _ := trivial
  hook _ _ _ := trivial
  render _ := trivial

theorem any_list (env : Env) (l : List Val) : (any env).list () l := fun _ _ => trivial

end Operands

/-- A logic of the printer: a relation on pairs of printer states, the first run under the oracle and hook `env`, the
second under `env'`, that every primitive step respects. -/
structure Logic (ι : Type) (env env' : Env) extends Operands ι env where
  /-- precondition on the two printers -/
  R : ι → PP → PP → Prop
  /-- from the inputs `p`, `p'` to the outputs `q`, `q'` -/
  T : ι → PP → PP → PP → PP → Prop
  /-- the results of `doPrint`/`doPrintf` (which leave the buffer in the mode they selected) -/
  TD : ι → PP → PP → PP → PP → Prop
  /-- the buffers carried by a propagating panic, seen from the input buffers -/
  Pn : Buffer → Buffer → Buffer → Buffer → Prop
  /-- the first run may have less fuel than the second: where it runs out, the second may do anything -/
  lag : Prop
  hook_eq : env'.hook = env.hook
  -- the two runs look at the same bookkeeping
  f_eq : ∀ {i p p'}, R i p p' → p'.f = p.f
  erroring_eq : ∀ {i p p'}, R i p p' → p'.erroring = p.erroring
  panicking_eq : ∀ {i p p'}, R i p p' → p'.panicking = p.panicking
  wrap_eq : ∀ {i p p'}, R i p p' → Vb 119 → p'.wrapErrs = p.wrapErrs ∧ p'.wrappedErr = p.wrappedErr
  dispatch : ∀ {i p p' ms ret}, R i p p' → meths i ms ret → SameDispatch env p p' ms
  ovUnsafe_redactable : ∀ {i p p' c ty}, R i p p' → val i (.redactable c ty) → (p'.override ≠ .ovUnsafe ↔ p.override ≠ .ovUnsafe)
  /-- the text a `SafeMessager` returns is printed under the safe override -/
  messager : ∀ {i p p' ms ret}, R i p p' → meths i ms ret → p.override ≠ .ovUnsafe ∧ ms.safeMessager = true →
    leaf (enter PP.startSafeOverride i) ret
  -- transitions compose
  refl : ∀ {i p p'}, R i p p' → T i p p' p p'
  trans : ∀ {i p p' q q' r r'}, T i p p' q q' → T i q q' r r' → T i p p' r r'
  pre : ∀ {i p p' q q'}, R i p p' → T i p p' q q' → R i q q'
  Pn_trans : ∀ {i p p' q q' b b'}, T i p p' q q' → Pn q.buf q'.buf b b' → Pn p.buf p'.buf b b'
  /-- a raised panic that is not reported in place (`catchPanic` while a panic value is being printed, `slotMethods`
  for a redactable) propagates with the buffer as it is -/
  Pn_of_T : ∀ {i p p' q q'}, T i p p' q q' → Pn p.buf p'.buf q.buf q'.buf
  w : ∀ {i p p' s}, R i p p' → W s → T i p p' (p.w s) (p'.w s)
  wb : ∀ {i p p' c}, R i p p' → c < 0x80 → T i p p' (p.wb c) (p'.wb c)
  wr : ∀ {i p p'} (r : Int), R i p p' → T i p p' (p.wr r) (p'.wr r)
  setF : ∀ {i p p'} (g : FmtS), R i p p' → T i p p' { p with f := g } { p' with f := g }
  setPanicking : ∀ {i p p'} (e : Bool), R i p p' → T i p p' { p with panicking := e } { p' with panicking := e }
  setWrapped : ∀ {i p p'} (x : Option Nat) (e : Bool), R i p p' → Vb 119 →
    T i p p' { p with wrappedErr := x, wrapErrs := e } { p' with wrappedErr := x, wrapErrs := e }
  setWrappedErr : ∀ {i p p'} (x : Option Nat), R i p p' → Vb 119 → T i p p' { p with wrappedErr := x } { p' with wrappedErr := x }
  /-- `badVerb` sets `erroring` while it prints the operand again … -/
  err_enter : ∀ {i p p'}, R i p p' → R i { p with erroring := true } { p' with erroring := true }
  /-- … and clears it before it returns -/
  err_exit : ∀ {i p p' q q'}, R i p p' → T i { p with erroring := true } { p' with erroring := true } q q' →
    T i p p' { q with erroring := false } { q' with erroring := false }
  /-- The `start*()` the logic answers for in `defer p.startX().restore()`: `IsStart`, or a property of
  its own that the brackets it meets have (`startUnsafeOverride` is met only at an `Unsafe(…)` operand). -/
  Starts : (PP → PP × PP.Restorer) → Prop
  starts_safeOverride : Starts PP.startSafeOverride
  starts_unsafe : Starts PP.startUnsafe
  starts_unsafeOverride : ∀ {i v}, val i (.unsafeW v) → Starts PP.startUnsafeOverride
  start_in : ∀ {i start p p'}, Starts start → R i p p' → R (enter start i) (start p).1 (start p').1
  /-- the payload of a panic that leaves a bracket -/
  val_leave : ∀ {i start pl}, Starts start → val (enter start i) pl → val i pl
  start_out : ∀ {i start p p' q q'}, Starts start → R i p p' → T (enter start i) (start p).1 (start p').1 q q' →
    T i p p' (q.restore (start p).2) (q'.restore (start p').2)
  start_pn : ∀ {i start p p' b b'}, Starts start → R i p p' → Pn (start p).1.buf (start p').1.buf b b' →
    Pn p.buf p'.buf (b.setMode (start p).2.prevMode) (b'.setMode (start p').2.prevMode)
  /-- a RedactableString/Bytes operand: copied raw under `startPreRedactable` -/
  redactable : ∀ {i p p' c ty}, R i p p' → val i (.redactable c ty) →
    T i p p' (((p.startPreRedactable.1).w c).restore p.startPreRedactable.2)
      (((p'.startPreRedactable.1).w c).restore p'.startPreRedactable.2)
  nested_in : ∀ {i p p'}, R i p p' → R i p.nested p'.nested
  nested_out : ∀ {i p p' q q'}, R i p p' → TD i p.nested p'.nested q q' → T i p p' (p.handBack q.buf) (p'.handBack q'.buf)
  nested_pn : ∀ {i p p' b b'}, R i p p' → Pn p.buf p'.buf b b' → T i p p' (p.handBack b) (p'.handBack b')
  -- the prologue of `doPrint`/`doPrintf`
  setSafe_in : ∀ {i p p'}, R i p p' → R i p.setSafe p'.setSafe
  setSafe_out : ∀ {i p p' q q'}, R i p p' → T i p.setSafe p'.setSafe q q' → TD i p p' q q'
  setSafe_pn : ∀ {i p p' b b'}, R i p p' → Pn p.setSafe.buf p'.setSafe.buf b b' → Pn p.buf p'.buf b b'

namespace Logic
variable {ι : Type} {env env' : Env} (L : Logic ι env env')

inductive RelR (i : ι) (p p' : PP) : Res → Res → Prop
  | ok {q q' : PP} : L.T i p p' q q' → RelR i p p' (.ok q) (.ok q')
  | panic {b b' : Buffer} {pl : Val} : L.Pn p.buf p'.buf b b' → L.val i pl → RelR i p p' (.panic b pl) (.panic b' pl)
  | fuel : RelR i p p' .fuel .fuel
  | unsupported : RelR i p p' .unsupported .unsupported
  | lagL {r' : Res} : L.lag → RelR i p p' .fuel r'

inductive RelD (i : ι) (p p' : PP) : Res → Res → Prop
  | ok {q q' : PP} : L.TD i p p' q q' → RelD i p p' (.ok q) (.ok q')
  | panic {b b' : Buffer} {pl : Val} : L.Pn p.buf p'.buf b b' → L.val i pl → RelD i p p' (.panic b pl) (.panic b' pl)
  | fuel : RelD i p p' .fuel .fuel
  | unsupported : RelD i p p' .unsupported .unsupported
  | lagL {r' : Res} : L.lag → RelD i p p' .fuel r'

inductive RelS (i : ι) (p p' : PP) : SRes → SRes → Prop
  | ok {q q' : PP} : L.T i p p' q q' → RelS i p p' (.ok q) (.ok q')
  | raised {q q' : PP} {pl : Val} : L.T i p p' q q' → L.val i pl → RelS i p p' (.raised q pl) (.raised q' pl)
  | abort {r r' : Res} : L.RelR i p p' r r' → RelS i p p' (.abort r) (.abort r')
  | lagL {o' : SRes} : L.lag → RelS i p p' (.abort .fuel) o'

/-- `(handled, result)` pairs of the dispatch functions: both handled the operand, or both declined (a declining
`handleMethods` may have recorded the wrapped error first). A dispatch function that runs out of fuel reports "handled". -/
inductive RelH (i : ι) (p p' : PP) : Bool × Res → Bool × Res → Prop
  | handled {r r' : Res} : L.RelR i p p' r r' → RelH i p p' (true, r) (true, r')
  | declined {q q' : PP} : L.T i p p' q q' → RelH i p p' (false, .ok q) (false, .ok q')
  | lagL {a' : Bool × Res} : L.lag → RelH i p p' (true, .fuel) a'

variable {L}

theorem RelD.relR {i : ι} {p p' : PP} {r r' : Res} (hT : ∀ {q q'}, L.TD i p p' q q' → L.T i p p' q q')
    (h : L.RelD i p p' r r') : L.RelR i p p' r r' := by
  cases h with
  | ok h => exact .ok (hT h)
  | panic hb hpl => exact .panic hb hpl
  | fuel => exact .fuel
  | unsupported => exact .unsupported
  | lagL hl => exact .lagL hl
variable {i : ι} {p p' q q' : PP}

theorem RelR.from {r r' : Res} (g : L.T i p p' q q') (h : L.RelR i q q' r r') : L.RelR i p p' r r' := by
  cases h with
  | ok h => exact .ok (L.trans g h)
  | panic hb hpl => exact .panic (L.Pn_trans g hb) hpl
  | fuel => exact .fuel
  | unsupported => exact .unsupported
  | lagL hl => exact .lagL hl

theorem RelS.from {r r' : SRes} (g : L.T i p p' q q') (h : L.RelS i q q' r r') : L.RelS i p p' r r' := by
  cases h with
  | ok h => exact .ok (L.trans g h)
  | raised h hpl => exact .raised (L.trans g h) hpl
  | abort h => exact .abort (h.from g)
  | lagL hl => exact .lagL hl

theorem RelH.from {a a' : Bool × Res} (g : L.T i p p' q q') (h : L.RelH i q q' a a') : L.RelH i p p' a a' := by
  cases h with
  | handled h => exact .handled (h.from g)
  | declined h => exact .declined (L.trans g h)
  | lagL hl => exact .lagL hl

theorem RelH.snd {a a' : Bool × Res} (h : L.RelH i p p' a a') : L.RelR i p p' a.2 a'.2 := by
  cases h with
  | handled h => exact h
  | declined h => exact .ok h
  | lagL hl => exact .lagL hl

theorem RelH.fst_eq {a a' : Bool × Res} (hl : ¬ L.lag) (h : L.RelH i p p' a a') : a'.1 = a.1 := by
  cases h with
  | handled | declined => rfl
  | lagL h => exact absurd h hl

theorem RelR.bind {a a' : Res} {k k' : PP → Res} (h : L.RelR i p p' a a')
    (hk : ∀ q q', L.T i p p' q q' → L.RelR i q q' (k q) (k' q')) : L.RelR i p p' (a.bind k) (a'.bind k') := by
  cases h with
  | ok h => exact (hk _ _ h).from h
  | panic hb hpl => exact .panic hb hpl
  | fuel => exact .fuel
  | unsupported => exact .unsupported
  | lagL hl => exact .lagL hl

theorem RelR.ite {c : Prop} [Decidable c] {a b a' b' : Res} (ha : L.RelR i p p' a a') (hb : L.RelR i p p' b b') :
    L.RelR i p p' (if c then a else b) (if c then a' else b') := by
  split <;> assumption
theorem RelH.ite {c : Prop} [Decidable c] {a b a' b' : Bool × Res} (ha : L.RelH i p p' a a') (hb : L.RelH i p p' b b') :
    L.RelH i p p' (if c then a else b) (if c then a' else b') := by
  split <;> assumption
theorem RelS.ite {c : Prop} [Decidable c] {a b a' b' : SRes} (ha : L.RelS i p p' a a') (hb : L.RelS i p p' b b') :
    L.RelS i p p' (if c then a else b) (if c then a' else b') := by
  split <;> assumption
theorem T_ite {c : Prop} [Decidable c] {a b a' b' : PP} (ha : L.T i p p' a a') (hb : L.T i p p' b b') :
    L.T i p p' (if c then a else b) (if c then a' else b') := by
  split <;> assumption

theorem RelR.ite_iff {c c' : Prop} [Decidable c] [Decidable c'] (hc : c' ↔ c) {a b a' b' : Res}
    (ha : L.RelR i p p' a a') (hb : L.RelR i p p' b b') : L.RelR i p p' (if c then a else b) (if c' then a' else b') := by
  by_cases h : c
  · rw [if_pos h, if_pos (hc.mpr h)]; exact ha
  · rw [if_neg h, if_neg (fun h' => h (hc.mp h'))]; exact hb
theorem RelH.ite_iff {c c' : Prop} [Decidable c] [Decidable c'] (hc : c' ↔ c) {a b a' b' : Bool × Res}
    (ha : L.RelH i p p' a a') (hb : L.RelH i p p' b b') : L.RelH i p p' (if c then a else b) (if c' then a' else b') := by
  by_cases h : c
  · rw [if_pos h, if_pos (hc.mpr h)]; exact ha
  · rw [if_neg h, if_neg (fun h' => h (hc.mp h'))]; exact hb
theorem RelH.ite_iff_c {c c' : Prop} [Decidable c] [Decidable c'] (hc : c' ↔ c) {a b a' b' : Bool × Res}
    (ha : c → L.RelH i p p' a a') (hb : L.RelH i p p' b b') : L.RelH i p p' (if c then a else b) (if c' then a' else b') := by
  by_cases h : c
  · rw [if_pos h, if_pos (hc.mpr h)]; exact ha h
  · rw [if_neg h, if_neg (fun h' => h (hc.mp h'))]; exact hb
theorem T_ite_iff {c c' : Prop} [Decidable c] [Decidable c'] (hc : c' ↔ c) {a b a' b' : PP}
    (ha : L.T i p p' a a') (hb : L.T i p p' b b') : L.T i p p' (if c then a else b) (if c' then a' else b') := by
  by_cases h : c
  · rw [if_pos h, if_pos (hc.mpr h)]; exact ha
  · rw [if_neg h, if_neg (fun h' => h (hc.mp h'))]; exact hb

theorem RelR.ite_c {c : Prop} [Decidable c] {a b a' b' : Res} (ha : c → L.RelR i p p' a a') (hb : L.RelR i p p' b b') :
    L.RelR i p p' (if c then a else b) (if c then a' else b') := by
  split
  · exact ha ‹_›
  · exact hb
theorem RelH.ite_c {c : Prop} [Decidable c] {a b a' b' : Bool × Res} (ha : c → L.RelH i p p' a a') (hb : L.RelH i p p' b b') :
    L.RelH i p p' (if c then a else b) (if c then a' else b') := by
  split
  · exact ha ‹_›
  · exact hb

/-- What the callers of a dispatch function see of its answer. -/
theorem RelH.cases {b b' : Bool} {r r' : Res} (h : L.RelH i p p' (b, r) (b', r')) :
    (b' = b ∧ L.RelR i p p' r r') ∨ (L.lag ∧ b = true ∧ r = .fuel) := by
  cases h with
  | handled h => exact .inl ⟨rfl, h⟩
  | declined h => exact .inl ⟨rfl, .ok h⟩
  | lagL hl => exact .inr ⟨hl, rfl, rfl⟩

theorem wa (hR : L.R i p p') {s : List Byte} (hs : s.all (· < 0x80) = true) : L.T i p p' (p.w s) (p'.w s) :=
  L.w hR (L.W_asc (asc_of_all hs))

section chain
variable (hR : L.R i p p') (g : L.T i p p' q q')
include hR g

theorem Tw {s : List Byte} (hs : L.W s) : L.T i p p' (q.w s) (q'.w s) := L.trans g (L.w (L.pre hR g) hs)
theorem Twa {s : List Byte} (hs : s.all (· < 0x80) = true) : L.T i p p' (q.w s) (q'.w s) := Tw hR g (L.W_asc (asc_of_all hs))
theorem Twb {c : Byte} (hc : c < 0x80) : L.T i p p' (q.wb c) (q'.wb c) := L.trans g (L.wb (L.pre hR g) hc)
theorem Twr (r : Int) : L.T i p p' (q.wr r) (q'.wr r) := L.trans g (L.wr r (L.pre hR g))
theorem TsetF (f : FmtS) : L.T i p p' { q with f := f } { q' with f := f } := L.trans g (L.setF f (L.pre hR g))

theorem TrestoreFlags (old : FmtS) : L.T i p p' { q with f := q.f.restoreFlags old } { q' with f := q'.f.restoreFlags old } := by
  rw [L.f_eq (L.pre hR g)]; exact TsetF hR g _

end chain

/-- The separator in front of every element of a container but the first. -/
theorem T_sep (hR : L.R i p p') (first : Bool) :
    L.T i p p' (if first = true then p else if p.f.sharpV = true then p.w ([0x2C, 0x20] : List UInt8) else p.wb 0x20)
      (if first = true then p' else if p'.f.sharpV = true then p'.w ([0x2C, 0x20] : List UInt8) else p'.wb 0x20) :=
  T_ite (L.refl hR) (T_ite_iff (by rw [L.f_eq hR]) (wa hR (by decide)) (L.wb hR (by decide)))

/-- `name:` in front of a struct field under `%+v`/`%#v`. -/
theorem T_fieldName (hR : L.R i p p') {name : List Byte} (hn : L.W name) :
    L.T i p p' (if p.f.plusV = true ∨ p.f.sharpV = true then (p.w name).wb 0x3A else p)
      (if p'.f.plusV = true ∨ p'.f.sharpV = true then (p'.w name).wb 0x3A else p') :=
  T_ite_iff (by rw [L.f_eq hR]) (Twb hR (L.w hR hn) (by decide)) (L.refl hR)

theorem RelD.of_setSafe (hR : L.R i p p') {r r' : Res} (h : L.RelR i p.setSafe p'.setSafe r r') : L.RelD i p p' r r' := by
  cases h with
  | ok h => exact .ok (L.setSafe_out hR h)
  | panic hb hpl => exact .panic (L.setSafe_pn hR hb) hpl
  | fuel => exact .fuel
  | unsupported => exact .unsupported
  | lagL hl => exact .lagL hl

/-- A closing delimiter after a sub-print. -/
theorem RelR.thenWb (hR : L.R i p p') {r r' : Res} (h : L.RelR i p p' r r') {c : Byte} (hc : c < 0x80) :
    L.RelR i p p' (r.bind fun q => .ok (q.wb c)) (r'.bind fun q => .ok (q.wb c)) :=
  h.bind fun _ _ g => .ok (L.wb (L.pre hR g) hc)

theorem RelR.bracket {start : PP → PP × PP.Restorer} (hs : L.Starts start) (hR : L.R i p p') {body body' : PP → Res}
    (hb : L.RelR (L.enter start i) (start p).1 (start p').1 (body (start p).1) (body' (start p').1)) :
    L.RelR i p p' (bracket start p body) (bracket start p' body') := by
  unfold Redact.bracket
  have h1 := @Logic.start_out _ _ _ L i start p p'
  have h2 := @Logic.start_pn _ _ _ L i start p p'
  generalize start p = sp at hb h1 h2
  generalize start p' = sp' at hb h1 h2
  obtain ⟨q0, r⟩ := sp
  obtain ⟨q0', r'⟩ := sp'
  simp only at hb h1 h2 ⊢
  generalize body q0 = x at hb
  generalize body' q0' = x' at hb
  cases hb with
  | ok h => exact .ok (h1 hs hR h)
  | panic hbb hpl => exact .panic (h2 hs hR hbb) (L.val_leave hs hpl)
  | fuel => exact .fuel
  | unsupported => exact .unsupported
  | lagL hl => exact .lagL hl

variable (L) in
/-- Where the oracle's rendering of a leaf is written: `leafWrite1`, and `UnsafeString` of a leaf in an error hook's
script. With one oracle for both runs this follows from the fields of the logic (`Leaves.same`). -/
structure Leaves : Prop where
  leaf : ∀ {i p p'} id verb, L.R i p p' → L.leaf i id →
    L.RelR i p p' (leafWrite1 env p id verb) (leafWrite1 env' p' id verb)
  unsafeLeaf : ∀ {i p p'} id, L.R i p p' → L.leaf i id →
    (env.render id [0x25, 0x73] = none ∧ env'.render id [0x25, 0x73] = none) ∨
    ∃ s s', env.render id [0x25, 0x73] = some s ∧ env'.render id [0x25, 0x73] = some s' ∧
      L.T i p p' ((p.startUnsafe.1.w s).restore p.startUnsafe.2) ((p'.startUnsafe.1.w s').restore p'.startUnsafe.2)

theorem rel_leafWrite (lv : L.Leaves) (hR : L.R i p p') {id : Nat} (hl : L.leaf i id) (verb : Nat) (k : BK) {ty : List Byte}
    -- "(" ++ ty ++ ")(nil)"
    (hty : k = .ptr → L.W ([0x28] ++ ty ++ ([0x29, 0x28, 0x6E, 0x69, 0x6C, 0x29] : List UInt8))) :
    L.RelR i p p' (leafWrite env p id verb k ty) (leafWrite env' p' id verb k ty) := by
  unfold leafWrite
  rw [L.f_eq hR]
  split
  · rename_i h; exact .ok (L.w hR (hty h.1))
  · exact lv.leaf id verb hR hl

theorem rel_retOut (nr : Bool) (hR : L.R i p p') {sc : Script} (hsc : L.script i sc) {r r' : Res} (h : L.RelR i p p' r r') :
    L.RelS i p p' (retOut nr p sc r) (retOut nr p' sc r') := by
  unfold retOut
  split
  · exact .raised (L.refl hR) L.val_nil
  · split
    · exact .raised (L.refl hR) (L.script_panic hsc)
    · exact .abort h

theorem rel_raisedNil (nr : Bool) (hR : L.R i p p') {a a' : SRes} (h : L.RelS i p p' a a') :
    L.RelS i p p' (if nr = true then .raised p .nil else a) (if nr = true then .raised p' .nil else a') :=
  .ite (.raised (L.refl hR) L.val_nil) h

/-- One bracketed write of the adapter (`SafeString`, `UnsafeString`, …). -/
theorem T_bracketStep {start : PP → PP × PP.Restorer} (hs : L.Starts start) (hR : L.R i p p') {f : PP → PP}
    (hf : ∀ {j q q'}, L.R j q q' → L.T j q q' (f q) (f q')) :
    L.T i p p' ((f (start p).1).restore (start p).2) ((f (start p').1).restore (start p').2) :=
  L.start_out hs hR (hf (L.start_in hs hR))

theorem Leaves.same {L : Logic ι env env} : L.Leaves where
  leaf id verb hR _ := by
    unfold leafWrite1
    rw [L.f_eq hR]
    split
    · exact .unsupported
    · split
      · exact .unsupported
      · rename_i hb
        exact .bracket L.starts_unsafe hR (.ok (L.w (L.start_in L.starts_unsafe hR) (L.render hb)))
  unsafeLeaf id hR _ := by
    cases hr : env.render id [0x25, 0x73] with
    | none => exact .inl ⟨rfl, rfl⟩
    | some s => exact .inr ⟨s, s, rfl, rfl, T_bracketStep L.starts_unsafe hR (f := (·.w s)) fun h => L.w h (L.render hr)⟩

variable (L) in
/-- What is known when the first run has fuel `n` and the second `n'`. `doPrintf` appears only as it is called by a
method's nested `Printf`. -/
structure SpecA (n n' : Nat) : Prop where
  printArg : ∀ i p p' v verb, L.R i p p' → L.val i v → L.Vb verb →
    L.RelR i p p' (printArg env n p v verb) (printArg env' n' p' v verb)
  printArgBody : ∀ i p p' v verb, L.R i p p' → L.val i v → L.Vb verb →
    L.RelR i p p' (printArgBody env n p v verb) (printArgBody env' n' p' v verb)
  badVerb : ∀ i p p' v verb via, L.R i p p' → L.val i v →
    L.RelR i p p' (badVerb env n p v verb via) (badVerb env' n' p' v verb via)
  handleMethods : ∀ i p p' v verb, L.R i p p' → L.val i v → L.Vb verb →
    L.RelH i p p' (handleMethods env n p v verb) (handleMethods env' n' p' v verb)
  methDispatch : ∀ i p p' v ms nr ret sc verb, L.R i p p' → L.val i v → L.meths i ms ret → L.script i sc →
    L.RelH i p p' (methDispatch env n p v ms nr ret sc verb) (methDispatch env' n' p' v ms nr ret sc verb)
  /-- the operand itself is printed only where `fmtString` rejects the verb -/
  fmtString : ∀ i p p' v ret verb, L.R i p p' → (verbOkFor .str verb = false → L.val i v) → L.leaf i ret →
    L.RelR i p p' (fmtString env n p v ret verb) (fmtString env' n' p' v ret verb)
  /-- `p0`, `p0'` (the states before the method ran) are not looked at; the outcome is related from any `p`, `p'`,
  which is where the report starts -/
  catchPanic : ∀ i p p' p0 p0' arg verb m nr out out', L.R i p p' → L.W m → L.RelS i p p' out out' →
    L.RelR i p p' (catchPanic env n p0 arg verb m nr out) (catchPanic env' n' p0' arg verb m nr out')
  runScript : ∀ i p p' sc, L.R i p p' → L.script i sc → L.RelS i p p' (runScript env n p sc) (runScript env' n' p' sc)
  printValue : ∀ i p p' v verb d ro, L.R i p p' → L.val i v → L.Vb verb →
    L.RelR i p p' (printValue env n p v verb d ro) (printValue env' n' p' v verb d ro)
  printSlot : ∀ i p p' v verb d ifc ro, L.R i p p' → L.val i v → L.Vb verb →
    L.RelR i p p' (printSlot env n p v verb d ifc ro) (printSlot env' n' p' v verb d ifc ro)
  slotMethods : ∀ i p p' v verb, L.R i p p' → L.val i v → L.Vb verb →
    L.RelH i p p' (slotMethods env n p v verb) (slotMethods env' n' p' v verb)
  printFields : ∀ i p p' fs verb d ro f, L.R i p p' → L.fields i fs → L.Vb verb →
    L.RelR i p p' (printFields env n p fs verb d ro f) (printFields env' n' p' fs verb d ro f)
  printElems : ∀ i p p' vs verb d ifc ro f, L.R i p p' → L.vals i vs → L.Vb verb →
    L.RelR i p p' (printElems env n p vs verb d ifc ro f) (printElems env' n' p' vs verb d ifc ro f)
  printPairs : ∀ i p p' ks vs verb d ik iv ro f, L.R i p p' → L.vals i ks → L.vals i vs → L.Vb verb →
    L.RelR i p p' (printPairs env n p ks vs verb d ik iv ro f) (printPairs env' n' p' ks vs verb d ik iv ro f)
  doPrint : ∀ i p p' args, L.R i p p' → L.list i args → L.RelD i p p' (doPrint env n p args) (doPrint env' n' p' args)
  doPrintLoop : ∀ i p p' args k ps, L.R i p p' → L.list i args →
    L.RelR i p p' (doPrintLoop env n p args k ps) (doPrintLoop env' n' p' args k ps)
  nestedPrintf : ∀ i p p' f args, L.R i p p' → L.FmN f → L.list i args →
    L.RelD i p.nested p'.nested (doPrintf env n p.nested f args) (doPrintf env' n' p'.nested f args)


/-- `badVerb`'s frame around the operand printed again: `)` and the `erroring` flag cleared. -/
theorem RelR.err_exit (hR : L.R i p p') {r r' : Res}
    (h : L.RelR i { p with erroring := true } { p' with erroring := true } r r') :
    L.RelR i p p' (r.bind fun q => .ok { (q.wb 0x29) with erroring := false })
      (r'.bind fun q => .ok { (q.wb 0x29) with erroring := false }) := by
  cases h with
  | ok h => exact .ok (L.err_exit hR (Twb (L.err_enter hR) h (by decide)))
  | panic hb hpl => exact .panic hb hpl
  | fuel => exact .fuel
  | unsupported => exact .unsupported
  | lagL hl => exact .lagL hl

theorem specA_zero : L.SpecA 0 0 := by
  constructor <;> intros <;> simp only [printArg, printArgBody, badVerb, handleMethods, methDispatch, fmtString, catchPanic,
    runScript, printValue, printSlot, slotMethods, printFields, printElems, printPairs, doPrint, doPrintLoop, doPrintf]
  all_goals first
    | exact .fuel
    | exact .handled .fuel
    | exact .abort .fuel

theorem specA_zero_lag (hl : L.lag) (n' : Nat) : L.SpecA 0 n' := by
  constructor <;> intros <;> simp only [printArg, printArgBody, badVerb, handleMethods, methDispatch, fmtString, catchPanic,
    runScript, printValue, printSlot, slotMethods, printFields, printElems, printPairs, doPrint, doPrintLoop, doPrintf]
  all_goals exact .lagL hl

variable {n n' : Nat} (S : L.SpecA n n')
include S

theorem stepA_printArg : ∀ i p p' v verb, L.R i p p' → L.val i v → L.Vb verb →
    L.RelR i p p' (printArg env (n + 1) p v verb) (printArg env' (n' + 1) p' v verb) := by
  intro i p p' v verb hR hv hvb
  have body1 : ∀ j q q', L.R j q q' → L.val j v → L.RelR j q q'
      (if isSafeValue v then bracket PP.startSafeOverride q fun q2 => printArgBody env n q2 v verb
       else printArgBody env n q v verb)
      (if isSafeValue v then bracket PP.startSafeOverride q' fun q2 => printArgBody env' n' q2 v verb
       else printArgBody env' n' q' v verb) := fun j q q' h hj =>
    .ite_c (fun hs => .bracket L.starts_safeOverride h
        (S.printArgBody _ _ _ _ _ (L.start_in L.starts_safeOverride h) (L.val_declared hj (.inr hs)) hvb))
      (S.printArgBody _ _ _ _ _ h hj hvb)
  cases v with
  | safeW w =>
    simp only [printArg]
    exact .bracket L.starts_safeOverride hR (S.printArg _ _ _ _ _ (L.start_in L.starts_safeOverride hR) (L.val_safeW hv) hvb)
  | unsafeW w =>
    simp only [printArg]
    exact .bracket (L.starts_unsafeOverride hv) hR (S.printArg _ _ _ _ _ (L.start_in (L.starts_unsafeOverride hv) hR) (L.val_unsafeW hv) hvb)
  | _ =>
    simp only [printArg]
    exact .ite_c (fun hr => .bracket L.starts_safeOverride hR
        (body1 _ _ _ (L.start_in L.starts_safeOverride hR) (L.val_declared hv (.inl hr)))) (body1 _ _ _ hR hv)

theorem stepA_fmtString (lv : L.Leaves) : ∀ i p p' v ret verb, L.R i p p' → (verbOkFor .str verb = false → L.val i v) →
    L.leaf i ret → L.RelR i p p' (fmtString env (n + 1) p v ret verb) (fmtString env' (n' + 1) p' v ret verb) := by
  intro i p p' v ret verb hR hv hl
  simp only [fmtString]
  by_cases hc : verbOkFor .str verb = true
  · rw [if_pos hc, if_pos hc]; exact rel_leafWrite lv hR hl _ _ (fun h => by cases h)
  · rw [if_neg hc, if_neg hc]; exact S.badVerb _ _ _ _ _ _ hR (hv (by simpa using hc))

theorem stepA_badVerb : ∀ i p p' v verb via, L.R i p p' → L.val i v →
    L.RelR i p p' (badVerb env (n + 1) p v verb via) (badVerb env' (n' + 1) p' v verb via) := by
  intro i p p' v verb via hR hv
  have hE := L.err_enter hR
  have g2 := Twb hE (Twr hE (Twa hE (L.refl hE) (s := percentBang) (by decide)) verb) (c := 0x28) (by decide)
  unfold badVerb
  apply RelR.err_exit hR
  cases v with
  | nil => exact .ok (Twa hE g2 (by decide))
  | _ =>
    have g3 := Twb hE (Tw hE g2 (L.val_typeName hv).1) (c := 0x3D) (by decide)
    exact .ite (.from g3 (S.printValue _ _ _ _ _ _ _ (L.pre hE g3) hv L.Vb_v)) (.from g3 (S.printArg _ _ _ _ _ (L.pre hE g3) hv L.Vb_v))

/-- `%w` of an operand that is no error, or a second `%w`: the capture is cancelled and the verb is bad. -/
theorem rel_badVerbW {p p' : PP} {v : Val} {verb : Nat} (hR : L.R i p p') (hv : L.val i v) (hvb : L.Vb verb) (h : verb = 119) :
    L.RelR i p p' (badVerb env n { p with wrappedErr := none, wrapErrs := false } v verb)
      (badVerb env' n' { p' with wrappedErr := none, wrapErrs := false } v verb) :=
  have g := L.setWrapped none false hR (h ▸ hvb)
  .from g (S.badVerb _ _ _ _ _ _ (L.pre hR g) hv)

theorem stepA_printArgBody (lv : L.Leaves) : ∀ i p p' v verb, L.R i p p' → L.val i v → L.Vb verb →
    L.RelR i p p' (printArgBody env (n + 1) p v verb) (printArgBody env' (n' + 1) p' v verb) := by
  intro i p p' v verb hR hv hvb
  have hT : L.RelR i p p' (.ok (p.w (fmtSAscii p.f (typeName v)))) (.ok (p'.w (fmtSAscii p'.f (typeName v)))) := by
    rw [L.f_eq hR]; exact .ok (L.w hR ((L.val_typeName hv).2 _))
  have hbad : ∀ via, L.RelR i p p' (badVerb env n p v verb via) (badVerb env' n' p' v verb via) :=
    fun via => S.badVerb _ _ _ _ _ via hR hv
  have hbadW := rel_badVerbW S hR hv hvb
  have hh := S.handleMethods _ p p' v verb hR hv hvb
  have hpv := S.printValue _ p p' v verb 0 false hR hv hvb
  cases v with
  | nil =>
    simp only [printArgBody]
    refine .ite (.ok ?_) (hbad _)
    rw [L.f_eq hR]; exact L.w hR (L.W_asc (asc_padStr _ (asc_of_all (s := nilAngle) (by decide))))
  | leaf id k ty iv sv reg =>
    have hlw : ∀ k', L.RelR i p p' (leafWrite env p id verb k' ty) (leafWrite env' p' id verb k' ty) :=
      fun k' => rel_leafWrite lv hR (L.val_leaf hv).1 _ _ (fun _ => (L.val_leaf hv).2)
    cases k <;> simp only [printArgBody] <;>
      exact .ite hT (.ite (by first | exact hlw _ | exact hbad _) (.ite_c (fun h => hbadW h.1) (.ite (hlw _) (hbad _))))
  | redactable c ty =>
    simp only [printArgBody]
    exact .ite hT (.ite (hbad _) (.ok (L.redactable hR hv)))
  | _ =>
    simp only [printArgBody]
    refine .ite hT (.ite (by first | exact .unsupported | exact hbad _) ?_)
    generalize handleMethods env n p _ verb = x at hh ⊢
    generalize handleMethods env' n' p' _ verb = x' at hh ⊢
    obtain ⟨b, r⟩ := x
    obtain ⟨b', r'⟩ := x'
    rcases hh.cases with ⟨rfl, h2⟩ | ⟨hl, rfl, rfl⟩
    · cases b' <;> simp only
      · exact hpv
      · exact h2
    · exact .lagL hl

theorem stepA_handleMethods : ∀ i p p' v verb, L.R i p p' → L.val i v → L.Vb verb →
    L.RelH i p p' (handleMethods env (n + 1) p v verb) (handleMethods env' (n' + 1) p' v verb) := by
  intro i p p' v verb hR hv hvb
  have hbadW := rel_badVerbW S hR hv hvb
  unfold handleMethods
  refine .ite_iff (by rw [L.erroring_eq hR]) (.declined (L.refl hR)) ?_
  cases v with
  | meth ms ty sv reg nr ret sc u =>
    obtain ⟨hms, hsc, _⟩ := L.val_meth hv
    simp only
    refine .ite_c (fun h => ?_) (S.methDispatch _ _ _ _ _ _ _ _ _ hR hv hms hsc)
    -- `%w`: capture the first error operand; both runs hold the same capture state
    have hw := h ▸ hvb
    obtain ⟨e1, e2⟩ := L.wrap_eq hR hw
    refine .ite_iff (by rw [e1, e2]) (.handled (hbadW h)) ?_
    have g := L.setWrappedErr (some ret) hR hw
    exact .from g (S.methDispatch _ _ _ _ _ _ _ _ _ (L.pre hR g) hv hms hsc)
  | _ =>
    simp only
    exact .ite_c (fun h => .handled (hbadW h)) (.declined (L.refl hR))

theorem stepA_methDispatch (lv : L.Leaves) : ∀ i p p' v ms nr ret sc verb, L.R i p p' → L.val i v → L.meths i ms ret →
    L.script i sc →
    L.RelH i p p' (methDispatch env (n + 1) p v ms nr ret sc verb) (methDispatch env' (n' + 1) p' v ms nr ret sc verb) := by
  intro i p p' v ms nr ret sc verb hR hv hms hsc
  obtain ⟨d1, d2, d3⟩ := L.dispatch hR hms
  have hf := L.f_eq hR
  have cp : ∀ (m : List Byte), m.all (· < 0x80) = true → ∀ out out', L.RelS i p p' out out' →
      L.RelH i p p' (true, catchPanic env n p v verb m nr out) (true, catchPanic env' n' p' v verb m nr out') :=
    fun m hm out out' h => .handled (S.catchPanic _ p p' p p' v verb m nr out out' hR (L.W_asc (asc_of_all hm)) h)
  have no : L.RelH i p p' (false, .ok p) (false, .ok p') := .declined (L.refl hR)
  have hfs := S.fmtString _ p p' v ret verb hR (fun _ => hv) (L.meths_leaf hms)
  have hrs := fun sc hsc => rel_raisedNil nr hR (S.runScript _ p p' sc hR hsc)
  unfold methDispatch
  rw [L.hook_eq]
  refine .ite_iff d1 (cp _ (by decide) _ _ (hrs _ hsc)) (.ite_iff_c d2 (fun hm => cp _ (by decide) _ _ (rel_retOut nr hR hsc ?_)) (.ite_iff d3 ?_ ?_))
  · -- the message itself is printed under the safe override; where `fmtString` rejects the verb, the operand is printed as it stands
    exact .ite_c (fun hvb => .bracket L.starts_safeOverride hR (S.fmtString _ _ _ _ _ _ (L.start_in L.starts_safeOverride hR)
      (fun h => by rw [hvb] at h; cases h) (L.messager hR hms hm))) hfs
  · cases hh : env.hook with
    | none => exact no
    | some h => exact cp _ (by decide) _ _ (hrs _ (L.hook hh hms _))
  · refine .ite (cp _ (by decide) _ _ (hrs _ hsc)) (.ite_iff (by rw [hf]) (.ite (cp _ (by decide) _ _ (rel_retOut nr hR hsc ?_)) no) ?_)
    · -- `GoString` is formatted like `%s` with the `#`/`+` flags suspended
      rw [hf]
      have g := L.setF { p.f with sharpV := false, sharp := false, plusV := false, plus := false } hR
      exact .from g (.bind (rel_leafWrite lv (L.pre hR g) (L.meths_leaf hms) _ _ (fun h => by cases h))
        fun _ _ h => .ok (L.setF _ (L.pre (L.pre hR g) h)))
    · exact .ite (.ite (cp _ (by decide) _ _ (rel_retOut nr hR hsc hfs))
        (.ite (cp _ (by decide) _ _ (rel_retOut nr hR hsc hfs)) no)) no

theorem stepA_catchPanic : ∀ i p p' p0 p0' arg verb m nr out out', L.R i p p' → L.W m → L.RelS i p p' out out' →
    L.RelR i p p' (catchPanic env (n + 1) p0 arg verb m nr out) (catchPanic env' (n' + 1) p0' arg verb m nr out') := by
  intro i p p' p0 p0' arg verb m nr out out' hR hm h
  unfold catchPanic
  cases h with
  | ok h => exact .ok h
  | abort h => exact h
  | lagL hl => exact .lagL hl
  | raised h hpl =>
    rename_i q q' pl
    have hq := L.pre hR h
    simp only
    refine .ite (.ok (Twa hR h (by decide))) (.ite_iff (by rw [L.panicking_eq hq]) (.panic (L.Pn_of_T h) hpl) ?_)
    -- the report `%!v(PANIC=m method: payload)`, printed with the flags cleared and `panicking` set
    rw [L.f_eq hq]
    have g4 := Twa hR (Tw hR (Twa hR (Twr hR (Twa hR (TsetF hR h q.f.clear) (s := percentBang) (by decide)) verb)
      (s := [0x28, 0x50, 0x41, 0x4E, 0x49, 0x43, 0x3D]) (by decide)) hm) (s := [0x20, 0x6D, 0x65, 0x74, 0x68, 0x6F, 0x64, 0x3A, 0x20]) (by decide)
    have g5 := L.trans g4 (L.setPanicking true (L.pre hR g4))
    have h5 := L.pre hR g5
    exact .from g5 (.bind (S.printArg _ _ _ _ _ h5 hpl L.Vb_v) fun r r' hr =>
      have hr := L.pre h5 hr
      .ok (TrestoreFlags hr (Twb hr (L.setPanicking false hr) (c := 0x29) (by decide)) q.f))

theorem stepA_runScript (lv : L.Leaves) : ∀ i p p' sc, L.R i p p' → L.script i sc →
    L.RelS i p p' (runScript env (n + 1) p sc) (runScript env' (n' + 1) p' sc) := by
  intro i p p' sc hR hsc
  -- one bracketed write, then the rest of the script
  have step : ∀ {start : PP → PP × PP.Restorer} (s : List Byte) k, L.Starts start → L.W s → L.script i k →
      L.RelS i p p' (runScript env n (((start p).1.w s).restore (start p).2) k)
        (runScript env' n' (((start p').1.w s).restore (start p').2) k) := fun s k hs hw hk =>
    have g := T_bracketStep hs hR (f := (·.w s)) (fun h => L.w h hw)
    .from g (S.runScript _ _ _ _ (L.pre hR g) hk)
  -- the nested printer has returned: the buffer is handed back, a panic becomes a panic of the calling method
  have back : ∀ k, L.script i k → ∀ {r r'}, L.RelD i ({ buf := p.buf, override := p.override } : PP) { buf := p'.buf, override := p'.override } r r' →
      L.RelS i p p'
        (match r with
          | .ok np' => runScript env n { p with buf := np'.buf.setMode p.buf.mode } k
          | .panic b pl => .raised { p with buf := b.setMode p.buf.mode } pl
          | r => .abort r)
        (match r' with
          | .ok np' => runScript env' n' { p' with buf := np'.buf.setMode p'.buf.mode } k
          | .panic b pl => .raised { p' with buf := b.setMode p'.buf.mode } pl
          | r => .abort r) := fun k hk r r' hd => by
    cases hd with
    | ok h => exact .from (L.nested_out hR h) (S.runScript _ _ _ _ (L.pre hR (L.nested_out hR h)) hk)
    | panic hb hpl => exact .raised (L.nested_pn hR hb) hpl
    | fuel => exact .abort .fuel
    | unsupported => exact .abort .unsupported
    | lagL hl => exact .lagL hl
  unfold runScript
  cases sc with
  | done => exact .ok (L.refl hR)
  | panic pl => exact .raised (L.refl hR) (L.script_panic hsc)
  | indep k => exact S.runScript _ _ _ _ hR (L.script_indep hsc)
  | safeString s k => simp only; exact step s k L.starts_safeOverride (L.script_safeString hsc).1 (L.script_safeString hsc).2
  | safeRune x k =>
    simp only
    have g := T_bracketStep L.starts_safeOverride hR (f := (·.wr x)) (fun h => L.wr x h)
    exact .from g (S.runScript _ _ _ _ (L.pre hR g) (L.script_safeRune hsc))
  | unsafeString s k => simp only; exact step s k L.starts_unsafe (L.script_unsafeString hsc).1 (L.script_unsafeString hsc).2
  | write s k => simp only; exact step s k L.starts_unsafe (L.script_write hsc).1 (L.script_write hsc).2
  | unsafeLeaf id k =>
    simp only
    obtain ⟨hl, hk⟩ := L.script_unsafeLeaf hsc
    rcases lv.unsafeLeaf id hR hl with ⟨e, e'⟩ | ⟨s, s', e, e', g⟩
    · rw [e, e']; exact .abort .unsupported
    · rw [e, e']; exact .from g (S.runScript _ _ _ _ (L.pre hR g) hk)
  | print args k =>
    obtain ⟨ha, hk⟩ := L.script_print hsc
    have hd := S.doPrint _ _ _ _ (L.nested_in hR) (L.list_toList _ ha)
    unfold PP.nested at hd
    simp only
    generalize doPrint env n _ args.toList = r at hd ⊢
    generalize doPrint env' n' _ args.toList = r' at hd ⊢
    exact back k hk hd
  | printf f args k =>
    obtain ⟨hf, ha, hk⟩ := L.script_printf hsc
    have hd := S.nestedPrintf _ _ _ _ _ hR hf (L.list_toList _ ha)
    unfold PP.nested at hd
    simp only
    generalize doPrintf env n _ f args.toList = r at hd ⊢
    generalize doPrintf env' n' _ f args.toList = r' at hd ⊢
    exact back k hk hd

theorem stepA_printValue (lv : L.Leaves) : ∀ i p p' v verb d ro, L.R i p p' → L.val i v → L.Vb verb →
    L.RelR i p p' (printValue env (n + 1) p v verb d ro) (printValue env' (n' + 1) p' v verb d ro) := by
  intro i p p' v verb d ro hR hv hvb
  have hf := L.f_eq hR
  unfold printValue
  cases v with
  | nil => exact .ok (wa hR (s := nilAngle) (by decide))
  | leaf id k ty iv sv reg => exact .ite (rel_leafWrite lv hR (L.val_leaf hv).1 _ _ (fun _ => (L.val_leaf hv).2)) (S.badVerb _ _ _ _ _ _ hR hv)
  | meth ms ty sv reg nr ret sc u => exact S.printValue _ _ _ _ _ _ _ hR (L.val_meth hv).2.2 hvb
  | struct ty reg fs =>
    obtain ⟨hty, hfs⟩ := L.val_struct hv
    have g := Twb hR (T_ite_iff (c := p.f.sharpV = true) (c' := p'.f.sharpV = true) (by rw [hf]) (L.w hR hty) (L.refl hR))
      (c := 0x7B) (by decide)
    exact .from g (.thenWb (L.pre hR g) (S.printFields _ _ _ _ _ _ _ _ (L.pre hR g) hfs hvb) (by decide))
  | slice ty isNil iface es =>
    obtain ⟨hty, hes⟩ := L.val_slice hv
    have g1 := L.w hR hty
    have g2 := Twb hR g1 (c := 0x7B) (by decide)
    have g3 := L.wb hR (c := 0x5B) (by decide)
    exact .ite_iff (by rw [hf])
      (.ite (.ok (Twa hR g1 (by decide)))
        (.from g2 (.thenWb (L.pre hR g2) (S.printElems _ _ _ _ _ _ _ _ _ (L.pre hR g2) hes hvb) (by decide))))
      (.from g3 (.thenWb (L.pre hR g3) (S.printElems _ _ _ _ _ _ _ _ _ (L.pre hR g3) hes hvb) (by decide)))
  | map ty isNil ifaceK ifaceV ks vs =>
    obtain ⟨hty, hks, hvs⟩ := L.val_map hv
    have g1 := L.w hR hty
    have g := T_ite_iff (c := p.f.sharpV = true) (c' := p'.f.sharpV = true) (by rw [hf]) (Twb hR g1 (c := 0x7B) (by decide))
      (wa hR (s := [0x6D, 0x61, 0x70, 0x5B]) (by decide))
    refine .ite_iff (by rw [hf]) (.ok (Twa hR g1 (by decide))) (.from g (.bind (S.printPairs _ _ _ _ _ _ _ _ _ _ _ (L.pre hR g) hks hvs hvb) ?_))
    intro q q' h
    rw [L.f_eq (L.pre (L.pre hR g) h)]
    exact .ok (L.wb (L.pre (L.pre hR g) h) (by split <;> decide))
  | ptrTo ty to =>
    have g := L.wb hR (c := 0x26) (by decide)
    exact .ite (.from g (S.printSlot _ _ _ _ _ _ _ _ (L.pre hR g) (L.val_ptrTo hv) hvb)) .unsupported
  | _ => exact .unsupported

theorem stepA_slotMethods : ∀ i p p' v verb, L.R i p p' → L.val i v → L.Vb verb →
    L.RelH i p p' (slotMethods env (n + 1) p v verb) (slotMethods env' (n' + 1) p' v verb) := by
  intro i p p' v verb hR hv hvb
  unfold slotMethods
  refine .ite_iff (by rw [L.erroring_eq hR]) (.declined (L.refl hR)) ?_
  cases v with
  | redactable c ty =>
    simp only
    refine .ite_iff (L.ovUnsafe_redactable hR hv) (.handled ?_) (.declined (L.refl hR))
    have hr := S.runScript _ p p' _ hR (L.val_redactable hv)
    generalize runScript env n p _ = r at hr ⊢
    generalize runScript env' n' p' _ = r' at hr ⊢
    cases hr with
    | ok h => exact .ok h
    | raised h hpl => exact .panic (L.Pn_of_T h) hpl
    | abort h => exact h
    | lagL hl => exact .lagL hl
  | safeW w => exact .handled .unsupported
  | unsafeW w => exact .handled .unsupported
  | _ => exact S.handleMethods _ _ _ _ _ hR hv hvb

theorem stepA_printFields : ∀ i p p' fs verb d ro f, L.R i p p' → L.fields i fs → L.Vb verb →
    L.RelR i p p' (printFields env (n + 1) p fs verb d ro f) (printFields env' (n' + 1) p' fs verb d ro f) := by
  intro i p p' fs verb d ro f hR hfs hvb
  unfold printFields
  cases fs with
  | nil => exact .ok (L.refl hR)
  | cons name exported it v rest =>
    obtain ⟨hn, hv, hrest⟩ := L.fields_cons hfs
    have g1 := T_sep hR f
    have h1 := L.pre hR g1
    have g2 := L.trans g1 (T_fieldName h1 hn)
    have h2 := L.pre hR g2
    exact .from g2 (.bind (S.printSlot _ _ _ _ _ _ _ _ h2 hv hvb) fun _ _ h => S.printFields _ _ _ _ _ _ _ _ (L.pre h2 h) hrest hvb)

theorem stepA_printElems : ∀ i p p' vs verb d ifc ro f, L.R i p p' → L.vals i vs → L.Vb verb →
    L.RelR i p p' (printElems env (n + 1) p vs verb d ifc ro f) (printElems env' (n' + 1) p' vs verb d ifc ro f) := by
  intro i p p' vs verb d ifc ro f hR hvs hvb
  unfold printElems
  cases vs with
  | nil => exact .ok (L.refl hR)
  | cons v rest =>
    obtain ⟨hv, hrest⟩ := L.vals_cons hvs
    have g1 := T_sep hR f
    have h1 := L.pre hR g1
    exact .from g1 (.bind (S.printSlot _ _ _ _ _ _ _ _ h1 hv hvb) fun _ _ h => S.printElems _ _ _ _ _ _ _ _ _ (L.pre h1 h) hrest hvb)

theorem stepA_printPairs : ∀ i p p' ks vs verb d ik iv ro f, L.R i p p' → L.vals i ks → L.vals i vs → L.Vb verb →
    L.RelR i p p' (printPairs env (n + 1) p ks vs verb d ik iv ro f) (printPairs env' (n' + 1) p' ks vs verb d ik iv ro f) := by
  intro i p p' ks vs verb d ik iv ro f hR hks hvs hvb
  unfold printPairs
  cases ks with
  | nil => exact .ok (L.refl hR)
  | cons k kr =>
    cases vs with
    | nil => exact .ok (L.refl hR)
    | cons v vr =>
      obtain ⟨hk, hkr⟩ := L.vals_cons hks
      obtain ⟨hv, hvr⟩ := L.vals_cons hvs
      have g1 := T_sep hR f
      have h1 := L.pre hR g1
      refine .from g1 (.bind (S.printSlot _ _ _ _ _ _ _ _ h1 hk hvb) fun q q' h => ?_)
      have hq := L.pre h1 h
      have g2 := L.wb hq (c := 0x3A) (by decide)
      exact .bind (.from g2 (S.printSlot _ _ _ _ _ _ _ _ (L.pre hq g2) hv hvb)) fun _ _ h2 =>
        S.printPairs _ _ _ _ _ _ _ _ _ _ _ (L.pre hq h2) hkr hvr hvb

theorem stepA_doPrintLoop : ∀ i p p' args k ps, L.R i p p' → L.list i args →
    L.RelR i p p' (doPrintLoop env (n + 1) p args k ps) (doPrintLoop env' (n' + 1) p' args k ps) := by
  intro i p p' args k ps hR ha
  unfold doPrintLoop
  cases args with
  | nil => exact .ok (L.refl hR)
  | cons a rest =>
    obtain ⟨hv, hrest⟩ := L.list_cons ha
    have g1 := T_ite (c := k > 0 ∧ (!isStringKind a) = true ∧ (!ps) = true) (L.wb hR (c := 0x20) (by decide)) (L.refl hR)
    have h1 := L.pre hR g1
    exact .from g1 (.bind (S.printArg _ _ _ _ _ h1 hv L.Vb_v) fun _ _ h => S.doPrintLoop _ _ _ _ _ _ (L.pre h1 h) hrest)

theorem stepA_doPrint : ∀ i p p' args, L.R i p p' → L.list i args →
    L.RelD i p p' (doPrint env (n + 1) p args) (doPrint env' (n' + 1) p' args) := by
  intro i p p' args hR ha
  unfold doPrint
  exact .of_setSafe hR (S.doPrintLoop _ _ _ _ _ _ (L.setSafe_in hR) ha)

theorem stepA_printSlot : ∀ i p p' v verb d ifc ro, L.R i p p' → L.val i v → L.Vb verb →
    L.RelR i p p' (printSlot env (n + 1) p v verb d ifc ro) (printSlot env' (n' + 1) p' v verb d ifc ro) := by
  intro i p p' v verb d ifc ro hR hv hvb
  have noMethod : ∀ j q q', L.R j q q' → L.val j v →
      L.RelR j q q' (slotNoMethod env n v verb d ifc ro q) (slotNoMethod env' n' v verb d ifc ro q') :=
    fun j q q' h hv => .ite (S.printSlot _ _ _ _ _ _ _ _ h hv hvb) (S.printValue _ _ _ _ _ _ _ h hv hvb)
  have afterMethods : ∀ j q q', L.R j q q' → L.val j v →
      L.RelR j q q' (slotAfterMethods env n v verb d ifc ro q) (slotAfterMethods env' n' v verb d ifc ro q') := by
    intro j q q' h hv
    refine .ite ?_ (noMethod j q q' h hv)
    have hh := S.slotMethods _ q q' v verb h hv hvb
    generalize slotMethods env n q v verb = x at hh ⊢
    generalize slotMethods env' n' q' v verb = x' at hh ⊢
    obtain ⟨b, r⟩ := x
    obtain ⟨b', r'⟩ := x'
    rcases hh.cases with ⟨rfl, h2⟩ | ⟨hl, rfl, rfl⟩
    · cases b' <;> simp only
      · exact noMethod j q q' h hv
      · exact h2
    · exact .lagL hl
  have body : ∀ j q q', L.R j q q' → L.val j v →
      L.RelR j q q' (slotBody env n v verb d ifc ro q) (slotBody env' n' v verb d ifc ro q') :=
    fun j q q' h hv => .ite_c (fun hs => .bracket L.starts_safeOverride h
      (afterMethods _ _ _ (L.start_in L.starts_safeOverride h) (L.val_declared hv (.inr hs.2)))) (afterMethods j q q' h hv)
  have general : L.RelR i p p' (slotGeneral env n v verb d ifc ro p) (slotGeneral env' n' v verb d ifc ro p') :=
    .ite_c (fun hr => .bracket L.starts_safeOverride hR
      (body _ _ _ (L.start_in L.starts_safeOverride hR) (L.val_declared hv (.inl hr.2)))) (body i p p' hR hv)
  -- wrappers and redactables are recognised by the static type of a concretely typed slot only
  have inner : ∀ {start : PP → PP × PP.Restorer} {w : Val}, L.Starts start → L.val (L.enter start i) w →
      L.RelR i p p' (bracket start p fun q => printSlot env n q w verb (d + 1) true true)
        (bracket start p' fun q => printSlot env' n' q w verb (d + 1) true true) :=
    fun hs hw => .bracket hs hR (S.printSlot _ _ _ _ _ _ _ _ (L.start_in hs hR) hw hvb)
  cases v with
  | nil =>
    rw [printSlot_eq_nil, printSlot_eq_nil]
    exact .ite_iff (by rw [L.f_eq hR]) (.ok (wa hR (by decide)))
      (.ok (wa hR (s := nilAngle) (by decide)))
  | safeW w =>
    cases ifc
    · rw [printSlot_eq_safeW, printSlot_eq_safeW]; exact inner L.starts_safeOverride (L.val_safeW hv)
    · rw [printSlot_eq_general _ (by simp) (.inl rfl), printSlot_eq_general _ (by simp) (.inl rfl)]; exact general
  | unsafeW w =>
    cases ifc
    · rw [printSlot_eq_unsafeW, printSlot_eq_unsafeW]; exact inner (L.starts_unsafeOverride hv) (L.val_unsafeW hv)
    · rw [printSlot_eq_general _ (by simp) (.inl rfl), printSlot_eq_general _ (by simp) (.inl rfl)]; exact general
  | redactable c ty =>
    cases ifc
    · rw [printSlot_eq_redactable, printSlot_eq_redactable]; exact .ok (L.redactable hR hv)
    · rw [printSlot_eq_general _ (by simp) (.inl rfl), printSlot_eq_general _ (by simp) (.inl rfl)]; exact general
  | _ => rw [printSlot_eq_general _ (by simp) (.inr rfl), printSlot_eq_general _ (by simp) (.inr rfl)]; exact general

/-- **The 16 functions reachable from `doPrint` respect the logic** at fuel `n + 1` if they do at fuel `n`;
what a method's nested `Printf` does at fuel `n + 1` is passed on as given. -/
theorem simA_step (lv : L.Leaves) (hpf : ∀ i p p' f args, L.R i p p' → L.FmN f → L.list i args →
      L.RelD i p.nested p'.nested (doPrintf env (n + 1) p.nested f args) (doPrintf env' (n' + 1) p'.nested f args)) :
    L.SpecA (n + 1) (n' + 1) where
  printArg := stepA_printArg S
  printArgBody := stepA_printArgBody S lv
  badVerb := stepA_badVerb S
  handleMethods := stepA_handleMethods S
  methDispatch := stepA_methDispatch S lv
  fmtString := stepA_fmtString S lv
  catchPanic := stepA_catchPanic S
  runScript := stepA_runScript S lv
  printValue := stepA_printValue S lv
  printSlot := stepA_printSlot S
  slotMethods := stepA_slotMethods S
  printFields := stepA_printFields S
  printElems := stepA_printElems S
  printPairs := stepA_printPairs S
  doPrint := stepA_doPrint S
  doPrintLoop := stepA_doPrintLoop S
  nestedPrintf := hpf

end Logic
/-- A logic that also covers the directive parser: the two runs agree on `reordered` and `goodArgNum`. -/
structure LogicF (ι : Type) (env env' : Env) extends Logic ι env env' where
  reordered_eq : ∀ {i p p'}, R i p p' → p'.reordered = p.reordered
  goodArgNum_eq : ∀ {i p p'}, R i p p' → p'.goodArgNum = p.goodArgNum
  setReordered : ∀ {i p p'} (e : Bool), R i p p' → T i p p' { p with reordered := e } { p' with reordered := e }
  setGood : ∀ {i p p'} (e : Bool), R i p p' → T i p p' { p with goodArgNum := e } { p' with goodArgNum := e }

namespace LogicF
variable {ι : Type} {env env' : Env} {LF : LogicF ι env env'}
variable {i : ι} {p p' q q' : PP}

open Logic

/-- Under `%v` the `#` and `+` flags become `sharpV` and `plusV`. -/
theorem T_vFlags (hR : LF.R i p p') (c : Prop) [Decidable c] :
    LF.T i p p' (if c then { p with f := { p.f with sharpV := p.f.sharp, sharp := false, plusV := p.f.plus, plus := false } } else p)
      (if c then { p' with f := { p'.f with sharpV := p'.f.sharp, sharp := false, plusV := p'.f.plus, plus := false } } else p') :=
  T_ite (by rw [LF.f_eq hR]; exact LF.setF _ hR) (LF.refl hR)

theorem T_argNumber (hR : LF.R i p p') (k : Nat) (f : List Byte) (n : Nat) :
    LF.T i p p' (argNumber p k f n).1 (argNumber p' k f n).1 ∧ (argNumber p' k f n).2 = (argNumber p k f n).2 := by
  have g1 := LF.setReordered true hR
  have g2 := LF.trans g1 (LF.setGood false (LF.pre hR g1))
  unfold argNumber
  repeat' split
  all_goals first
    | exact ⟨LF.refl hR, rfl⟩
    | exact ⟨g1, rfl⟩
    | exact ⟨g2, rfl⟩

theorem T_widthStage (hR : LF.R i p p') (args : List Val) (k : Nat) (r : List Byte) (ai : Bool) :
    LF.T i p p' (widthStage p args k r ai).1 (widthStage p' args k r ai).1 ∧
      (widthStage p' args k r ai).2 = (widthStage p args k r ai).2 := by
  unfold widthStage
  rw [LF.f_eq hR]
  split
  · dsimp only
    generalize intFromArg args k = ifa
    obtain ⟨num, isInt, newArg⟩ := ifa
    dsimp only
    refine ⟨?_, rfl⟩
    have g1 := LF.setF { p.f with wid := num.toNat, widPresent := isInt } hR
    have h1 := LF.pre hR g1
    have g2 := LF.trans g1 (T_ite (c := (!isInt) = true)
      -- "%!(BADWIDTH)"
      (wa h1 (s := [0x25, 0x21, 0x28, 0x42, 0x41, 0x44, 0x57, 0x49, 0x44, 0x54, 0x48, 0x29]) (by decide))
      (LF.refl h1))
    have h2 := LF.pre hR g2
    refine LF.trans g2 (T_ite ?_ (LF.refl h2))
    rw [LF.f_eq h2]; exact LF.setF _ h2
  · dsimp only
    generalize parsenum r = pn
    obtain ⟨w, wp, r'⟩ := pn
    dsimp only
    have g1 := LF.setF { p.f with wid := w, widPresent := wp } hR
    exact ⟨LF.trans g1 (T_ite (LF.setGood false (LF.pre hR g1)) (LF.refl (LF.pre hR g1))), rfl⟩

theorem T_precStage (hR : LF.R i p p') (args : List Val) (k : Nat) (r : List Byte) (ai : Bool) :
    LF.T i p p' (precStage p args k r ai).1 (precStage p' args k r ai).1 ∧
      (precStage p' args k r ai).2 = (precStage p args k r ai).2 := by
  unfold precStage
  split
  · rename_i c r''
    dsimp only
    have g1 := T_ite (c := ai = true) (LF.setGood false hR) (LF.refl hR)
    have h1 := LF.pre hR g1
    obtain ⟨g2, e2⟩ := T_argNumber h1 k (c :: r'') args.length
    have g2 := LF.trans g1 g2
    generalize argNumber (if ai = true then { p with goodArgNum := false } else p) k (c :: r'') args.length = an at g2 e2 ⊢
    generalize argNumber (if ai = true then { p' with goodArgNum := false } else p') k (c :: r'') args.length = an' at g2 e2 ⊢
    obtain ⟨py, ky, ry, aiy⟩ := an
    obtain ⟨py', ky', ry', aiy'⟩ := an'
    simp only [Prod.mk.injEq] at g2 e2
    obtain ⟨rfl, rfl, rfl⟩ := e2
    have h2 := LF.pre hR g2
    dsimp only
    rw [LF.f_eq h2]
    split
    · dsimp only
      generalize intFromArg args ky' = ifa
      obtain ⟨num, isInt, newArg⟩ := ifa
      dsimp only
      generalize (if num < 0 then ((0 : Nat), false) else (num.toNat, isInt)) = pp
      obtain ⟨prec, precPresent⟩ := pp
      dsimp only
      have g3 := LF.trans g2 (LF.setF { py.f with prec := prec, precPresent := precPresent } h2)
      have h3 := LF.pre hR g3
      exact ⟨LF.trans g3 (T_ite (wa h3 (by decide)) (LF.refl h3)), rfl⟩
    · dsimp only
      generalize parsenum ry' = pn
      obtain ⟨pr, ppres, r3⟩ := pn
      exact ⟨LF.trans g2 (LF.setF _ h2), rfl⟩
  · exact ⟨LF.refl hR, rfl⟩

theorem stage_split {α : Type} {x x' : PP × α} {P : PP → PP → Prop} (h : P x.1 x'.1 ∧ x'.2 = x.2) :
    ∃ q', x' = (q', x.2) ∧ P x.1 q' := ⟨_, Prod.ext rfl h.2, h.1⟩

/-- Through the four parser stages the two runs stay related and parse alike: the second run's result is the
first's but for the printer. -/
theorem T_directiveStages (hR : LF.R i p p') {f : List Byte} (hf : LF.Fm f) (args : List Val) (k : Nat) :
    LF.T i p p' (directiveStages p f args k).1 (directiveStages p' f args k).1 ∧
      (directiveStages p' f args k).2 = (directiveStages p f args k).2 ∧ LF.Fm (directiveStages p f args k).2.2.1 := by
  unfold directiveStages
  obtain ⟨p1', e1, g1⟩ := stage_split (T_argNumber hR k f args.length)
  have hf1 := LF.Fm_argNumber p k args.length hf
  rw [e1]
  generalize argNumber p k f args.length = an at g1 hf1 ⊢
  obtain ⟨p1, k1, r1, ai1⟩ := an
  dsimp only at g1 hf1 ⊢
  have h1 := LF.pre hR g1
  obtain ⟨p2', e2, g2⟩ := stage_split (T_widthStage h1 args k1 r1 ai1)
  have g2 := LF.trans g1 g2
  have hf2 := LF.Fm_width p1 args k1 ai1 hf1
  rw [e2]
  generalize widthStage p1 args k1 r1 ai1 = ws at g2 hf2 ⊢
  obtain ⟨p2, k2, r2, ai2⟩ := ws
  dsimp only at g2 hf2 ⊢
  have h2 := LF.pre hR g2
  obtain ⟨p3', e3, g3⟩ := stage_split (T_precStage h2 args k2 r2 ai2)
  have g3 := LF.trans g2 g3
  have hf3 := LF.Fm_prec p2 args k2 ai2 hf2
  rw [e3]
  generalize precStage p2 args k2 r2 ai2 = ps at g3 hf3 ⊢
  obtain ⟨p3, k3, r3, ai3⟩ := ps
  dsimp only at g3 hf3 ⊢
  split
  · obtain ⟨g4, e4⟩ := T_argNumber (LF.pre hR g3) k3 r3 args.length
    exact ⟨LF.trans g3 g4, e4, LF.Fm_argNumber _ _ _ hf3⟩
  · exact ⟨g3, rfl, hf3⟩

variable (LF) in
structure SpecB (n n' : Nat) : Prop where
  doPrintf : ∀ i p p' f args, LF.R i p p' → LF.Fm f → LF.list i args → LF.RelD i p p' (doPrintf env n p f args) (doPrintf env' n' p' f args)
  fmtLoop : ∀ i p p' f args k ai, LF.R i p p' → LF.Fm f → LF.list i args →
    LF.RelR i p p' (fmtLoop env n p f args k ai) (fmtLoop env' n' p' f args k ai)
  directiveTail : ∀ i p p' f args k ai, LF.R i p p' → LF.Fm f → LF.list i args →
    LF.RelR i p p' (directiveTail env n p f args k ai) (directiveTail env' n' p' f args k ai)
  finishPrintf : ∀ i p p' args k, LF.R i p p' → LF.list i args →
    LF.RelR i p p' (finishPrintf env n p args k) (finishPrintf env' n' p' args k)
  extraLoop : ∀ i p p' args f, LF.R i p p' → LF.list i args → LF.RelR i p p' (extraLoop env n p args f) (extraLoop env' n' p' args f)

theorem specB_zero : LF.SpecB 0 0 := by
  constructor <;> intros <;> simp only [doPrintf, fmtLoop, directiveTail, finishPrintf, extraLoop] <;> exact .fuel

theorem specB_zero_lag (hl : LF.lag) (n' : Nat) : LF.SpecB 0 n' := by
  constructor <;> intros <;> simp only [doPrintf, fmtLoop, directiveTail, finishPrintf, extraLoop] <;> exact .lagL hl

variable {n n' : Nat} (A : LF.SpecA n n') (B : LF.SpecB n n')
include A B

theorem stepB_extraLoop : ∀ i p p' args f, LF.R i p p' → LF.list i args →
    LF.RelR i p p' (extraLoop env (n + 1) p args f) (extraLoop env' (n' + 1) p' args f) := by
  intro i p p' args f hR ha
  unfold extraLoop
  cases args with
  | nil => exact .ok (LF.refl hR)
  | cons a rest =>
    obtain ⟨hv, hrest⟩ := LF.list_cons ha
    have g1 := T_ite (c := f = true) (LF.refl hR) (wa hR (s := [0x2C, 0x20]) (by decide))
    have h1 := LF.pre hR g1
    refine .from g1 (.bind ?_ fun _ _ h => B.extraLoop _ _ _ _ _ (LF.pre h1 h) hrest)
    cases a with
    | nil => exact .ok (wa h1 (s := nilAngle) (by decide))
    | _ =>
      have g2 := Twb h1 (LF.w h1 (LF.val_typeName hv).1) (c := 0x3D) (by decide)
      exact .from g2 (A.printArg _ _ _ _ _ (LF.pre h1 g2) hv LF.Vb_v)

omit A in
theorem stepB_finishPrintf : ∀ i p p' args k, LF.R i p p' → LF.list i args →
    LF.RelR i p p' (finishPrintf env (n + 1) p args k) (finishPrintf env' (n' + 1) p' args k) := by
  intro i p p' args k hR ha
  unfold finishPrintf
  refine .ite_iff (by rw [LF.reordered_eq hR]) ?_ (.ok (LF.refl hR))
  -- "%!(EXTRA "
  have g := Twa hR (LF.setF p.f.clear hR) (s := [0x25, 0x21, 0x28, 0x45, 0x58, 0x54, 0x52, 0x41, 0x20]) (by decide)
  exact .from g (.thenWb (LF.pre hR g) (B.extraLoop _ _ _ _ _ (LF.pre hR g) (LF.list_drop ha k)) (by decide))

theorem stepB_fmtLoop : ∀ i p p' f args k ai, LF.R i p p' → LF.Fm f → LF.list i args →
    LF.RelR i p p' (fmtLoop env (n + 1) p f args k ai) (fmtLoop env' (n' + 1) p' f args k ai) := by
  intro i p p' f args k ai hR hf ha
  have g0 := LF.setGood true hR
  have h0 := LF.pre hR g0
  have g1 := LF.trans g0 (T_ite (c := (f.takeWhile (· ≠ 0x25)).isEmpty = true) (LF.refl h0) (LF.w h0 (LF.Fm_lit hf)))
  have h1 := LF.pre hR g1
  unfold fmtLoop
  dsimp only
  cases hrest : f.dropWhile (· ≠ 0x25) with
  | nil => exact .from g1 (B.finishPrintf _ _ _ _ _ h1 ha)
  | cons c0 r0 =>
    have hf1 := LF.Fm_flags {} (LF.Fm_percent hf hrest)
    dsimp only
    generalize parseFlags true {} r0 = pf at hf1 ⊢
    obtain ⟨fs, r1⟩ := pf
    dsimp only at hf1 ⊢
    -- the flags of this directive replace those of the last
    have g2 := TsetF hR g1 ({ plus := fs.plus, minus := fs.minus, sharp := fs.sharp, space := fs.space, zero := fs.zero } : FmtS)
    have h2 := LF.pre hR g2
    have tail := B.directiveTail _ _ _ r1 args k ai h2 hf1 ha
    refine .from g2 ?_
    cases r1 with
    | nil => exact tail
    | cons c r2 =>
      dsimp only
      refine .ite_c (fun hc => ?_) tail
      obtain ⟨hvb, hf2⟩ := LF.Fm_ascii hf1 (UInt8.lt_of_le_of_lt hc.2.1 (by decide))
      have g3 := T_vFlags h2 (c = 0x76)
      have h3 := LF.pre h2 g3
      cases ha2 : args[k]? with
      | none => exact .ok g3
      | some a =>
        exact .from g3 (.bind (A.printArg _ _ _ _ _ h3 (LF.list_get ha ha2) hvb) fun _ _ h =>
          B.fmtLoop _ _ _ _ _ _ _ (LF.pre h3 h) hf2 ha)

theorem stepB_directiveTail : ∀ i p p' f args k ai, LF.R i p p' → LF.Fm f → LF.list i args →
    LF.RelR i p p' (directiveTail env (n + 1) p f args k ai) (directiveTail env' (n' + 1) p' f args k ai) := by
  intro i p p' f args k ai hR hf ha
  rw [directiveTail_eq, directiveTail_eq]
  obtain ⟨g, e, hf4⟩ := T_directiveStages hR hf args k
  obtain ⟨p4', e4, g4⟩ := stage_split ⟨g, e⟩
  rw [e4]
  generalize directiveStages p f args k = st at g4 hf4 ⊢
  obtain ⟨p4, k4', r4', ai4⟩ := st
  unfold directiveVerb
  dsimp only at g4 hf4 ⊢
  have h4 := LF.pre hR g4
  refine .from g4 ?_
  cases hd : decodeVerb r4' with
  | none => exact .ok (wa h4 (by decide))
  | some vr =>
    obtain ⟨verb, r'⟩ := vr
    obtain ⟨hvb, hf5⟩ := LF.Fm_verb hf4 hd
    dsimp only
    have wbang := Twr h4 (wa h4 (s := percentBang) (by decide)) verb
    have next : ∀ {q q'}, LF.T i p4 p4' q q' → LF.RelR i p4 p4' (fmtLoop env n q r' args k4' false) (fmtLoop env' n' q' r' args k4' false) :=
      fun g => .from g (B.fmtLoop _ _ _ _ _ _ _ (LF.pre h4 g) hf5 ha)
    refine .ite (next (LF.wb h4 (by decide))) (.ite_iff (by rw [LF.goodArgNum_eq h4]) (next (Twa h4 wbang (by decide)))
      (.ite (next (Twa h4 wbang (by decide))) ?_))
    have g5 := T_vFlags h4 (verb = 118)
    have h5 := LF.pre h4 g5
    cases ha2 : args[k4']? with
    | none => exact .ok g5
    | some a =>
      exact .from g5 (.bind (A.printArg _ _ _ _ _ h5 (LF.list_get ha ha2) hvb) fun _ _ h =>
        B.fmtLoop _ _ _ _ _ _ _ (LF.pre h5 h) hf5 ha)

omit A in
theorem stepB_doPrintf : ∀ i p p' f args, LF.R i p p' → LF.Fm f → LF.list i args →
    LF.RelD i p p' (doPrintf env (n + 1) p f args) (doPrintf env' (n' + 1) p' f args) := by
  intro i p p' f args hR hf ha
  unfold doPrintf
  have h1 := LF.setSafe_in hR
  have g2 := LF.setReordered false h1
  exact .of_setSafe hR (.from g2 (.bind (B.fmtLoop _ _ _ _ _ _ _ (LF.pre h1 g2) hf ha) fun _ _ h => .ok (LF.refl (LF.pre (LF.pre h1 g2) h))))

/-- **The `doPrintf` family respects the logic** at fuel `n + 1` if all 21 functions do at fuel `n`. -/
theorem simB_step : LF.SpecB (n + 1) (n' + 1) where
  doPrintf := stepB_doPrintf B
  fmtLoop := stepB_fmtLoop A B
  directiveTail := stepB_directiveTail A B
  finishPrintf := stepB_finishPrintf B
  extraLoop := stepB_extraLoop A B

omit A B in
/-- **The fundamental lemma**: all 21 functions of the printer respect the logic, at every fuel, given what a method's
nested `Printf` does. -/
theorem sim_all_of (LF : LogicF ι env env') (lv : LF.Leaves)
    (hpf : ∀ n i p p' f args, LF.R i p p' → LF.FmN f → LF.list i args →
      LF.RelD i p.nested p'.nested (doPrintf env n p.nested f args) (doPrintf env' n p'.nested f args)) :
    ∀ n, LF.toLogic.SpecA n n ∧ LF.SpecB n n := by
  intro n
  induction n with
  | zero => exact ⟨specA_zero, specB_zero⟩
  | succ n ih => exact ⟨simA_step ih.1 lv (hpf (n + 1)), simB_step ih.1 ih.2⟩

omit A B in
/-- … in particular when the formats of nested `Printf`s are admitted like any other. -/
theorem sim_all (LF : LogicF ι env env') (lv : LF.Leaves) (hN : ∀ f, LF.FmN f → LF.Fm f) : ∀ n, LF.toLogic.SpecA n n ∧ LF.SpecB n n := by
  intro n
  induction n with
  | zero => exact ⟨specA_zero, specB_zero⟩
  | succ n ih =>
    have B := simB_step ih.1 ih.2
    exact ⟨simA_step ih.1 lv fun _ _ _ _ _ hR hf ha => B.doPrintf _ _ _ _ _ (LF.nested_in hR) (hN _ hf) ha, B⟩

omit A B in
/-- The same with `d` more units of fuel for the second run, for a logic that allows the first to run out. -/
theorem sim_lag (LF : LogicF ι env env') (lv : LF.Leaves) (hN : ∀ f, LF.FmN f → LF.Fm f) (hl : LF.lag) (d : Nat) :
    ∀ n, LF.toLogic.SpecA n (d + n) ∧ LF.SpecB n (d + n) := by
  intro n
  induction n with
  | zero => exact ⟨specA_zero_lag hl d, specB_zero_lag hl d⟩
  | succ n ih =>
    have B := simB_step ih.1 ih.2
    exact ⟨simA_step ih.1 lv fun _ _ _ _ _ hR hf ha => B.doPrintf _ _ _ _ _ (LF.nested_in hR) (hN _ hf) ha, B⟩

end LogicF

/-- A one-run logic: a precondition `Pre` and a frame `G p q` relating the state a function returns to
the state it was entered with. It is the logic `R _ p p' := p' = p ∧ Pre p`, `T _ p _ q q' := q' = q ∧ G p q`, without a context. -/
structure Frame (env : Env) extends Operands Unit env where
  Pre : PP → Prop
  G : PP → PP → Prop
  /-- `doPrint`/`doPrintf` -/
  D : PP → PP → Prop
  /-- the buffer carried by a propagating panic, seen from the input buffer -/
  B : Buffer → Buffer → Prop
  refl : ∀ {p}, Pre p → G p p
  trans : ∀ {p q r}, G p q → G q r → G p r
  pre : ∀ {p q}, Pre p → G p q → Pre q
  B_trans : ∀ {p q b}, G p q → B q.buf b → B p.buf b
  B_of_G : ∀ {p q}, G p q → B p.buf q.buf
  w : ∀ {p s}, Pre p → W s → G p (p.w s)
  wb : ∀ {p c}, Pre p → c < 0x80 → G p (p.wb c)
  wr : ∀ {p} (r : Int), Pre p → G p (p.wr r)
  setF : ∀ {p} (g : FmtS), Pre p → G p { p with f := g }
  setPanicking : ∀ {p} (e : Bool), Pre p → G p { p with panicking := e }
  setWrapped : ∀ {p} (x : Option Nat) (e : Bool), Pre p → Vb 119 → G p { p with wrappedErr := x, wrapErrs := e }
  setWrappedErr : ∀ {p} (x : Option Nat), Pre p → Vb 119 → G p { p with wrappedErr := x }
  setReordered : ∀ {p} (e : Bool), Pre p → G p { p with reordered := e }
  setGood : ∀ {p} (e : Bool), Pre p → G p { p with goodArgNum := e }
  err_enter : ∀ {p}, Pre p → Pre { p with erroring := true }
  err_exit : ∀ {p q}, Pre p → G { p with erroring := true } q → G p { q with erroring := false }
  start_in : ∀ {start p}, IsStart start → Pre p → Pre (start p).1
  start_out : ∀ {start p q}, IsStart start → Pre p → G (start p).1 q → G p (q.restore (start p).2)
  start_pn : ∀ {start p b}, IsStart start → Pre p → B (start p).1.buf b → B p.buf (b.setMode (start p).2.prevMode)
  redactable : ∀ {p c ty}, Pre p → val () (.redactable c ty) →
    G p (((p.startPreRedactable.1).w c).restore p.startPreRedactable.2)
  nested_in : ∀ {p}, Pre p → Pre p.nested
  nested_out : ∀ {p q}, Pre p → D p.nested q → G p (p.handBack q.buf)
  nested_pn : ∀ {p b}, Pre p → B p.buf b → G p (p.handBack b)
  setSafe_in : ∀ {p}, Pre p → Pre p.setSafe
  setSafe_out : ∀ {p q}, Pre p → G p.setSafe q → D p q
  setSafe_pn : ∀ {p b}, Pre p → B p.setSafe.buf b → B p.buf b

namespace Frame
variable {env : Env} (F : Frame env)

def logic : LogicF Unit env env where
  toOperands := F.toOperands
  R _ p p' := p' = p ∧ F.Pre p
  T _ p _ q q' := q' = q ∧ F.G p q
  TD _ p _ q q' := q' = q ∧ F.D p q
  Pn b0 _ b b' := b' = b ∧ F.B b0 b
  lag := False
  hook_eq := rfl
  messager _ hms _ := F.meths_leaf hms
  f_eq h := by rw [h.1]
  erroring_eq h := by rw [h.1]
  panicking_eq h := by rw [h.1]
  wrap_eq h _ := by rw [h.1]; exact ⟨rfl, rfl⟩
  dispatch h _ := sameDispatch_of_eq (by rw [h.1]) _
  ovUnsafe_redactable h _ := by rw [h.1]
  reordered_eq h := by rw [h.1]
  goodArgNum_eq h := by rw [h.1]
  refl h := ⟨h.1, F.refl h.2⟩
  trans h1 h2 := ⟨h2.1, F.trans h1.2 h2.2⟩
  pre h g := ⟨g.1, F.pre h.2 g.2⟩
  Pn_trans g h := ⟨h.1, F.B_trans g.2 h.2⟩
  Pn_of_T g := ⟨by rw [g.1], F.B_of_G g.2⟩
  w h hs := by obtain ⟨rfl, hp⟩ := h; exact ⟨rfl, F.w hp hs⟩
  wb h hc := by obtain ⟨rfl, hp⟩ := h; exact ⟨rfl, F.wb hp hc⟩
  wr r h := by obtain ⟨rfl, hp⟩ := h; exact ⟨rfl, F.wr r hp⟩
  setF g h := by obtain ⟨rfl, hp⟩ := h; exact ⟨rfl, F.setF g hp⟩
  setPanicking e h := by obtain ⟨rfl, hp⟩ := h; exact ⟨rfl, F.setPanicking e hp⟩
  setWrapped x e h hv := by obtain ⟨rfl, hp⟩ := h; exact ⟨rfl, F.setWrapped x e hp hv⟩
  setWrappedErr x h hv := by obtain ⟨rfl, hp⟩ := h; exact ⟨rfl, F.setWrappedErr x hp hv⟩
  setReordered e h := by obtain ⟨rfl, hp⟩ := h; exact ⟨rfl, F.setReordered e hp⟩
  setGood e h := by obtain ⟨rfl, hp⟩ := h; exact ⟨rfl, F.setGood e hp⟩
  err_enter h := by obtain ⟨rfl, hp⟩ := h; exact ⟨rfl, F.err_enter hp⟩
  err_exit h g := by obtain ⟨rfl, hp⟩ := h; obtain ⟨rfl, g⟩ := g; exact ⟨rfl, F.err_exit hp g⟩
  Starts := IsStart
  starts_safeOverride := .safeOverride
  starts_unsafe := .unsafeMode
  starts_unsafeOverride _ := .unsafeOverride
  val_leave _ h := h
  start_in hs h := by obtain ⟨rfl, hp⟩ := h; exact ⟨rfl, F.start_in hs hp⟩
  start_out hs h g := by obtain ⟨rfl, hp⟩ := h; obtain ⟨rfl, g⟩ := g; exact ⟨rfl, F.start_out hs hp g⟩
  start_pn hs h hb := by obtain ⟨rfl, hp⟩ := h; obtain ⟨rfl, hb⟩ := hb; exact ⟨rfl, F.start_pn hs hp hb⟩
  redactable h hv := by obtain ⟨rfl, hp⟩ := h; exact ⟨rfl, F.redactable hp hv⟩
  nested_in h := by obtain ⟨rfl, hp⟩ := h; exact ⟨rfl, F.nested_in hp⟩
  nested_out h g := by obtain ⟨rfl, hp⟩ := h; obtain ⟨rfl, g⟩ := g; exact ⟨rfl, F.nested_out hp g⟩
  nested_pn h hb := by obtain ⟨rfl, hp⟩ := h; obtain ⟨rfl, hb⟩ := hb; exact ⟨rfl, F.nested_pn hp hb⟩
  setSafe_in h := by obtain ⟨rfl, hp⟩ := h; exact ⟨rfl, F.setSafe_in hp⟩
  setSafe_out h g := by obtain ⟨rfl, hp⟩ := h; obtain ⟨rfl, g⟩ := g; exact ⟨rfl, F.setSafe_out hp g⟩
  setSafe_pn h hb := by obtain ⟨rfl, hp⟩ := h; obtain ⟨rfl, hb⟩ := hb; exact ⟨rfl, F.setSafe_pn hp hb⟩

def OkR (p : PP) (r : Res) : Prop := F.logic.RelR () p p r r
def OkD (p : PP) (r : Res) : Prop := F.logic.RelD () p p r r
def OkS (p : PP) (o : SRes) : Prop := F.logic.RelS () p p o o
/-- of a dispatch function: the result only, handled or not -/
def OkH (p : PP) (a : Bool × Res) : Prop := F.logic.RelR () p p a.2 a.2

variable {F} {p q : PP} {b : Buffer} {pl : Val}

theorem OkR.ok (h : F.OkR p (.ok q)) : F.G p q := by cases h with | ok h => exact h.2
theorem OkR.panic (h : F.OkR p (.panic b pl)) : F.B p.buf b ∧ F.val () pl := by cases h with | panic hb hpl => exact ⟨hb.2, hpl⟩
theorem OkD.ok (h : F.OkD p (.ok q)) : F.D p q := by cases h with | ok h => exact h.2
theorem OkD.panic (h : F.OkD p (.panic b pl)) : F.B p.buf b ∧ F.val () pl := by cases h with | panic hb hpl => exact ⟨hb.2, hpl⟩
theorem OkS.ok (h : F.OkS p (.ok q)) : F.G p q := by cases h with | ok h => exact h.2
theorem OkS.raised (h : F.OkS p (.raised q pl)) : F.G p q ∧ F.val () pl := by cases h with | raised h hpl => exact ⟨h.2, hpl⟩
theorem OkS.abort {r : Res} (h : F.OkS p (.abort r)) : F.OkR p r := by
  cases h with
  | abort h => exact h
  | lagL hl => exact hl.elim

theorem OkR.mk {r : Res} (h1 : ∀ q, r = .ok q → F.G p q) (h2 : ∀ b pl, r = .panic b pl → F.B p.buf b ∧ F.val () pl) : F.OkR p r := by
  cases r with
  | ok q => exact Logic.RelR.ok ⟨rfl, h1 q rfl⟩
  | panic b pl => exact Logic.RelR.panic ⟨rfl, (h2 b pl rfl).1⟩ (h2 b pl rfl).2
  | fuel => exact Logic.RelR.fuel
  | unsupported => exact Logic.RelR.unsupported

theorem OkS.mk {o : SRes} (h1 : ∀ q, o = .ok q → F.G p q) (h2 : ∀ q pl, o = .raised q pl → F.G p q ∧ F.val () pl)
    (h3 : ∀ r, o = .abort r → F.OkR p r) : F.OkS p o := by
  cases o with
  | ok q => exact Logic.RelS.ok ⟨rfl, h1 q rfl⟩
  | raised q pl => exact Logic.RelS.raised ⟨rfl, (h2 q pl rfl).1⟩ (h2 q pl rfl).2
  | abort r => exact Logic.RelS.abort (h3 r rfl)

variable (F) in
structure Spec (n : Nat) : Prop where
  printArg : ∀ p v verb, F.Pre p → F.val () v → F.Vb verb → F.OkR p (printArg env n p v verb)
  printArgBody : ∀ p v verb, F.Pre p → F.val () v → F.Vb verb → F.OkR p (printArgBody env n p v verb)
  badVerb : ∀ p v verb via, F.Pre p → F.val () v → F.OkR p (badVerb env n p v verb via)
  handleMethods : ∀ p v verb, F.Pre p → F.val () v → F.Vb verb → F.OkH p (handleMethods env n p v verb)
  methDispatch : ∀ p v ms nr ret sc verb, F.Pre p → F.val () v → F.meths () ms ret → F.script () sc →
    F.OkH p (methDispatch env n p v ms nr ret sc verb)
  fmtString : ∀ p v ret verb, F.Pre p → F.val () v → F.leaf () ret → F.OkR p (fmtString env n p v ret verb)
  catchPanic : ∀ p p0 arg verb m nr out, F.Pre p → F.W m → F.OkS p out → F.OkR p (catchPanic env n p0 arg verb m nr out)
  runScript : ∀ p sc, F.Pre p → F.script () sc → F.OkS p (runScript env n p sc)
  printValue : ∀ p v verb d ro, F.Pre p → F.val () v → F.Vb verb → F.OkR p (printValue env n p v verb d ro)
  printSlot : ∀ p v verb d i ro, F.Pre p → F.val () v → F.Vb verb → F.OkR p (printSlot env n p v verb d i ro)
  slotMethods : ∀ p v verb, F.Pre p → F.val () v → F.Vb verb → F.OkH p (slotMethods env n p v verb)
  printFields : ∀ p fs verb d ro f, F.Pre p → F.fields () fs → F.Vb verb → F.OkR p (printFields env n p fs verb d ro f)
  printElems : ∀ p vs verb d i ro f, F.Pre p → F.vals () vs → F.Vb verb → F.OkR p (printElems env n p vs verb d i ro f)
  printPairs : ∀ p ks vs verb d ik iv ro f, F.Pre p → F.vals () ks → F.vals () vs → F.Vb verb →
    F.OkR p (printPairs env n p ks vs verb d ik iv ro f)
  doPrint : ∀ p args, F.Pre p → F.list () args → F.OkD p (doPrint env n p args)
  doPrintLoop : ∀ p args k ps, F.Pre p → F.list () args → F.OkR p (doPrintLoop env n p args k ps)
  doPrintf : ∀ p f args, F.Pre p → F.Fm f → F.list () args → F.OkD p (doPrintf env n p f args)
  fmtLoop : ∀ p f args k ai, F.Pre p → F.Fm f → F.list () args → F.OkR p (fmtLoop env n p f args k ai)
  directiveTail : ∀ p f args k ai, F.Pre p → F.Fm f → F.list () args → F.OkR p (directiveTail env n p f args k ai)
  finishPrintf : ∀ p args k, F.Pre p → F.list () args → F.OkR p (finishPrintf env n p args k)
  extraLoop : ∀ p args f, F.Pre p → F.list () args → F.OkR p (extraLoop env n p args f)

theorem spec_of {n : Nat} (h : F.logic.toLogic.SpecA n n ∧ F.logic.SpecB n n) : F.Spec n := by
  obtain ⟨A, B⟩ := h
  exact {
    printArg := fun p v verb hp hv hvb => A.printArg () p p v verb ⟨rfl, hp⟩ hv hvb
    printArgBody := fun p v verb hp hv hvb => A.printArgBody () p p v verb ⟨rfl, hp⟩ hv hvb
    badVerb := fun p v verb via hp hv => A.badVerb () p p v verb via ⟨rfl, hp⟩ hv
    handleMethods := fun p v verb hp hv hvb => (A.handleMethods () p p v verb ⟨rfl, hp⟩ hv hvb).snd
    methDispatch := fun p v ms nr ret sc verb hp hv hms hsc => (A.methDispatch () p p v ms nr ret sc verb ⟨rfl, hp⟩ hv hms hsc).snd
    fmtString := fun p v ret verb hp hv hl => A.fmtString () p p v ret verb ⟨rfl, hp⟩ (fun _ => hv) hl
    catchPanic := fun p p0 arg verb m nr out hp hm ho => A.catchPanic () p p p0 p0 arg verb m nr out out ⟨rfl, hp⟩ hm ho
    runScript := fun p sc hp hsc => A.runScript () p p sc ⟨rfl, hp⟩ hsc
    printValue := fun p v verb d ro hp hv hvb => A.printValue () p p v verb d ro ⟨rfl, hp⟩ hv hvb
    printSlot := fun p v verb d i ro hp hv hvb => A.printSlot () p p v verb d i ro ⟨rfl, hp⟩ hv hvb
    slotMethods := fun p v verb hp hv hvb => (A.slotMethods () p p v verb ⟨rfl, hp⟩ hv hvb).snd
    printFields := fun p fs verb d ro f hp hfs hvb => A.printFields () p p fs verb d ro f ⟨rfl, hp⟩ hfs hvb
    printElems := fun p vs verb d i ro f hp hvs hvb => A.printElems () p p vs verb d i ro f ⟨rfl, hp⟩ hvs hvb
    printPairs := fun p ks vs verb d ik iv ro f hp hks hvs hvb => A.printPairs () p p ks vs verb d ik iv ro f ⟨rfl, hp⟩ hks hvs hvb
    doPrint := fun p args hp ha => A.doPrint () p p args ⟨rfl, hp⟩ ha
    doPrintLoop := fun p args k ps hp ha => A.doPrintLoop () p p args k ps ⟨rfl, hp⟩ ha
    doPrintf := fun p f args hp hf ha => B.doPrintf () p p f args ⟨rfl, hp⟩ hf ha
    fmtLoop := fun p f args k ai hp hf ha => B.fmtLoop () p p f args k ai ⟨rfl, hp⟩ hf ha
    directiveTail := fun p f args k ai hp hf ha => B.directiveTail () p p f args k ai ⟨rfl, hp⟩ hf ha
    finishPrintf := fun p args k hp ha => B.finishPrintf () p p args k ⟨rfl, hp⟩ ha
    extraLoop := fun p args f hp ha => B.extraLoop () p p args f ⟨rfl, hp⟩ ha }

/-- `doPrint`/`doPrintf` at fuel `n + 1` are their loops at fuel `n` run from the state their prologue selects: they keep
the frame of that state (`F.D` may say less). -/
theorem Spec.doPrint_loop {n : Nat} (S : F.Spec n) {p : PP} {args : List Val} (hp : F.Pre p) (ha : F.list () args) :
    F.OkR p.setSafe (Redact.doPrint env (n + 1) p args) := by
  unfold Redact.doPrint; exact S.doPrintLoop _ _ _ _ (F.setSafe_in hp) ha

theorem Spec.doPrintf_loop {n : Nat} (S : F.Spec n) {p : PP} {f : List Byte} {args : List Val} (hp : F.Pre p) (hf : F.Fm f)
    (ha : F.list () args) : F.OkR p.setSafe (Redact.doPrintf env (n + 1) p f args) := by
  unfold Redact.doPrintf
  have h1 := F.setSafe_in hp
  have g := F.setReordered false h1
  have h2 := F.pre h1 g
  exact Logic.RelR.from (L := F.logic.toLogic) ⟨rfl, g⟩
    (Logic.RelR.bind (S.fmtLoop _ _ _ _ _ h2 hf ha) fun _ _ h => .ok (F.logic.refl (F.logic.pre ⟨rfl, h2⟩ h)))


/-- **The fundamental lemma for one run.** -/
theorem spec_all (F : Frame env) (hN : ∀ f, F.FmN f → F.Fm f) (n : Nat) : F.Spec n :=
  spec_of (LogicF.sim_all F.logic .same hN n)

theorem spec_all_of (F : Frame env)
    (hpf : ∀ n p f args, F.Pre p → F.FmN f → F.list () args → F.OkD p.nested (doPrintf env n p.nested f args)) (n : Nat) : F.Spec n :=
  spec_of (LogicF.sim_all_of F.logic .same (fun n _ q q' f args h hf ha => by obtain ⟨rfl, hp⟩ := h; exact hpf n _ f args hp hf ha) n)

end Frame

end Redact
