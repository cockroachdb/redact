import RedactVerif.Proofs.NI
/-
Complete UTF-8 characters (by the tables of `utf8.DecodeRune`), and buffers /
payloads that end in one: after a complete character the truncated-UTF-8 tail
test is false and no marker can be completed across the boundary.
-/
namespace Redact

/-! ### Complete UTF-8 characters -/

/-- A complete, valid UTF-8 encoding of one character, by the tables of `utf8.DecodeRune`. -/
def validRuneB : List Byte → Bool
  | [a] => a < 0x80
  | [a, b] => a ≥ 0x80 && (match leadInfo a with | some (2, lo, hi) => lo ≤ b && b ≤ hi | _ => false)
  | [a, b, c] => a ≥ 0x80 && (match leadInfo a with | some (3, lo, hi) => lo ≤ b && b ≤ hi && isCont c | _ => false)
  | [a, b, c, d] => a ≥ 0x80 && (match leadInfo a with | some (4, lo, hi) => lo ≤ b && b ≤ hi && isCont c && isCont d | _ => false)
  | _ => false

theorem runeStart_of_lead : ∀ a : Byte, a ≥ 0xC0 → runeStart a = true := by
  apply byte_forall; decide +kernel

theorem not_runeStart_of_cont : ∀ a : Byte, 0x80 ≤ a → a ≤ 0xBF → runeStart a = false := by
  apply byte_forall; decide +kernel

theorem isCont_bounds {c : Byte} (h : isCont c = true) : 0x80 ≤ c ∧ c ≤ 0xBF := by
  simpa [isCont] using h

/-- A character of two or more bytes, by the `first` table: the lead byte announces the length and
the range of the second byte; the others are continuation bytes. -/
theorem valid_multi {a b : Byte} {t : List Byte} :
    validRuneB (a :: b :: t) = true ↔
      ∃ lo hi, leadInfo a = some (t.length + 2, lo, hi) ∧ lo ≤ b ∧ b ≤ hi ∧ ∀ x ∈ t, isCont x = true := by
  constructor
  · intro h
    rcases t with _ | ⟨x, _ | ⟨y, _ | ⟨z, t⟩⟩⟩ <;>
      simp only [validRuneB, Bool.and_eq_true, decide_eq_true_eq, Bool.false_eq_true] at h
    all_goals
      obtain ⟨-, h⟩ := h
      split at h
      · rename_i lo hi hl; exact ⟨lo, hi, hl, by simpa [and_assoc] using h⟩
      · cases h
  · rintro ⟨lo, hi, hl, h1, h2, ht⟩
    obtain ⟨ha, hsz, -⟩ := leadInfo_spec hl
    have ha : a ≥ 0x80 := UInt8.le_trans (by decide) ha
    rcases t with _ | ⟨x, _ | ⟨y, _ | ⟨z, t⟩⟩⟩
    · simp [validRuneB, hl, ha, h1, h2]
    · simp [validRuneB, hl, ha, h1, h2, ht]
    · simp [validRuneB, hl, ha, h1, h2, ht]
    · simp at hsz

/-- The shape of a valid character: one ASCII byte, or a lead byte and one to three more. -/
theorem valid_shape {r : List Byte} (h : validRuneB r = true) :
    (∃ a, r = [a] ∧ a < 0x80) ∨ ∃ a b t, r = a :: b :: t := by
  match r, h with
  | [a], h => exact .inl ⟨a, rfl, by simpa [validRuneB] using h⟩
  | a :: b :: t, _ => exact .inr ⟨a, b, t, rfl⟩

theorem valid_cases {r : List Byte} (h : validRuneB r = true) :
    (∃ a, r = [a]) ∨ (∃ a b, r = [a, b]) ∨ (∃ a b c, r = [a, b, c]) ∨ (∃ a b c d, r = [a, b, c, d]) := by
  match r, h with
  | [a], _ => exact Or.inl ⟨a, rfl⟩
  | [a, b], _ => exact Or.inr (Or.inl ⟨a, b, rfl⟩)
  | [a, b, c], _ => exact Or.inr (Or.inr (Or.inl ⟨a, b, c, rfl⟩))
  | [a, b, c, d], _ => exact Or.inr (Or.inr (Or.inr ⟨a, b, c, d, rfl⟩))

/-- The bytes of a character of two or more bytes: a lead byte, then continuation bytes. -/
theorem valid_bytes {a b : Byte} {t : List Byte} (h : validRuneB (a :: b :: t) = true) :
    0xC2 ≤ a ∧ t.length ≤ 2 ∧ ∀ x ∈ b :: t, isCont x = true := by
  obtain ⟨lo, hi, hl, h1, h2, ht⟩ := valid_multi.mp h
  obtain ⟨ha, hsz, -⟩ := leadInfo_spec hl
  exact ⟨ha, by omega, List.forall_mem_cons.mpr ⟨isCont_of_lead hl h1 h2, ht⟩⟩

/-- `decodeRune` accepts a complete character at the head of its input, with its length... -/
theorem decodeRune_valid {r : List Byte} (h : validRuneB r = true) (p : List Byte) :
    decodeRune (r ++ p) = (false, r.length) := by
  rcases valid_shape h with ⟨a, rfl, ha⟩ | ⟨a, b, t, rfl⟩
  · simp [decodeRune, ha]
  · obtain ⟨lo, hi, hl, hb⟩ := valid_multi.mp h
    exact (decodeRune_lead hl p).trans (if_pos hb)

/-- ... and nothing else. -/
theorem valid_of_decodeRune {w : List Byte} {n : Nat} (h : decodeRune w = (false, n)) :
    validRuneB (w.take n) = true := by
  rcases decodeRune_cases w with e | e | ⟨c, p, rfl, hc, e⟩ | ⟨c, lo, hi, b, t, p, rfl, hl, h1, h2, ht, e⟩ <;>
    rw [e] at h <;> cases h
  · simpa [validRuneB] using hc
  · have : (c :: b :: (t ++ p)).take (t.length + 2) = c :: b :: t := by simp
    rw [this]; exact valid_multi.mpr ⟨lo, hi, hl, h1, h2, ht⟩

theorem valid2 {a b : Byte} (h : validRuneB [a, b] = true) :
    a ≥ 0xC2 ∧ 0x80 ≤ b ∧ b ≤ 0xBF ∧ decodeRune [a, b] = (false, 2) := by
  obtain ⟨ha, -, ht⟩ := valid_bytes h
  have hb := isCont_bounds (ht b (by simp))
  exact ⟨ha, hb.1, hb.2, decodeRune_valid h []⟩

theorem valid3 {a b c : Byte} (h : validRuneB [a, b, c] = true) :
    a ≥ 0xC2 ∧ 0x80 ≤ b ∧ b ≤ 0xBF ∧ 0x80 ≤ c ∧ c ≤ 0xBF ∧ decodeRune [a, b, c] = (false, 3) := by
  obtain ⟨ha, -, ht⟩ := valid_bytes h
  have hb := isCont_bounds (ht b (by simp))
  have hc := isCont_bounds (ht c (by simp))
  exact ⟨ha, hb.1, hb.2, hc.1, hc.2, decodeRune_valid h []⟩

theorem valid4 {a b c d : Byte} (h : validRuneB [a, b, c, d] = true) :
    a ≥ 0xC2 ∧ 0x80 ≤ b ∧ b ≤ 0xBF ∧ 0x80 ≤ c ∧ c ≤ 0xBF ∧ 0x80 ≤ d ∧ d ≤ 0xBF ∧ decodeRune [a, b, c, d] = (false, 4) := by
  obtain ⟨ha, -, ht⟩ := valid_bytes h
  have hb := isCont_bounds (ht b (by simp))
  have hc := isCont_bounds (ht c (by simp))
  have hd := isCont_bounds (ht d (by simp))
  exact ⟨ha, hb.1, hb.2, hc.1, hc.2, hd.1, hd.2, decodeRune_valid h []⟩

/-- The backwards search of `DecodeLastRune` passes over continuation bytes and stops at the lead byte. -/
theorem backScan_conts {m : List Byte} (hm : ∀ x ∈ m, isCont x = true) {a : Byte} (ha : runeStart a = true)
    (y : List Byte) {fuel : Nat} (hf : m.length < fuel) (k : Nat) :
    backScan fuel (m ++ a :: y) k = k + m.length + 1 := by
  induction m generalizing fuel k with
  | nil => obtain ⟨f, rfl⟩ : ∃ f, fuel = f + 1 := ⟨fuel - 1, by simp at hf; omega⟩; simp [backScan, ha]
  | cons x m ih =>
    obtain ⟨f, rfl⟩ : ∃ f, fuel = f + 1 := ⟨fuel - 1, by omega⟩
    have hx := isCont_bounds (hm x (by simp))
    simp only [List.cons_append, backScan, not_runeStart_of_cont x hx.1 hx.2, Bool.false_eq_true, if_false]
    rw [ih (fun z hz => hm z (by simp [hz])) (by simpa using hf)]
    simp; omega

/-- After a complete character the tail test is false, whatever precedes. -/
theorem tailBad_valid (x r : List Byte) (h : validRuneB r = true) : tailBad (x ++ r) = false := by
  rcases valid_shape h with ⟨a, rfl, ha⟩ | ⟨a, b, t, rfl⟩
  · rw [tailBad_eq_tbR]; simp [tbR, ha]
  · obtain ⟨ha, hlen, ht⟩ := valid_bytes h
    -- the last byte of the character, and the continuation bytes before it
    obtain ⟨m, last, hm⟩ : ∃ m last, b :: t = m ++ [last] :=
      ⟨_, _, (List.dropLast_concat_getLast (List.cons_ne_nil b t)).symm⟩
    have hml : m.reverse.length < 3 := by have := congrArg List.length hm; simp at this ⊢; omega
    have hr : (x ++ a :: b :: t).reverse = last :: (m.reverse ++ a :: x.reverse) := by rw [hm]; simp
    have hl : ¬ last < 0x80 := UInt8.not_lt.mpr (isCont_bounds (ht last (by rw [hm]; simp))).1
    rw [tailBad_window hr hl]
    simp only [backScan_conts (fun z hz => ht z (by rw [hm]; simp at hz ⊢; exact .inl hz))
      (runeStart_of_lead a (UInt8.le_trans (by decide) ha)) x.reverse hml 0]
    rw [if_neg (by simp)]
    have hw : (List.take (0 + m.reverse.length + 1) (m.reverse ++ a :: x.reverse)).reverse ++ [last] = a :: b :: t := by
      rw [hm, Nat.zero_add, List.take_length_add_append]; simp
    rw [hw]; simpa using decodeRune_valid h []

/-- A complete character leaves no dangling marker prefix: the tail test would report one. -/
theorem dangB_valid (x r : List Byte) (h : validRuneB r = true) : dangB (x ++ r) = false := by
  cases hd : dangB (x ++ r) with
  | false => rfl
  | true => exact absurd (tailBad_of_dangB _ hd) (by rw [tailBad_valid x r h]; decide)

theorem tokenize_no_E2 {r : List Byte} (h : 0xE2 ∉ r) : tokenize r = r.map .b := by
  induction r with
  | nil => simp
  | cons x r ih =>
    rw [tokenize_plain_ne x r (fun e => h (e ▸ List.mem_cons_self ..)), ih (fun m => h (List.mem_cons_of_mem _ m))]
    rfl

/-- The tokens of one complete character: a marker, or its bytes. -/
theorem tokenize_rune {r : List Byte} (h : validRuneB r = true) :
    tokenize r = [.s] ∨ tokenize r = [.e] ∨ tokenize r = r.map .b := by
  rcases valid_shape h with ⟨a, rfl, ha⟩ | ⟨a, b, t, rfl⟩
  · exact .inr (.inr (tokenize_no_E2 (by simp only [List.mem_singleton]; rintro rfl; revert ha; decide)))
  · have hE : 0xE2 ∉ b :: t := fun hm => absurd ((valid_bytes h).2.2 _ hm) (by decide)
    by_cases ha : a = 0xE2
    · -- `E2` leads three bytes
      subst ha
      obtain ⟨lo, hi, hl, -⟩ := valid_multi.mp h
      obtain ⟨c, rfl⟩ : ∃ c, t = [c] := List.length_eq_one_iff.mp (by
        rw [show leadInfo 0xE2 = some (3, 0x80, 0xBF) by decide] at hl; simp at hl; omega)
      by_cases hm : b = 0x80 ∧ (c = 0xB9 ∨ c = 0xBA)
      · obtain ⟨rfl, rfl | rfl⟩ := hm
        · exact .inl (by simp)
        · exact .inr (.inl (by simp))
      · refine .inr (.inr ?_)
        rw [tokenize_plain _ _ (fun _ _ hr => hm (by cases hr; exact ⟨rfl, .inl rfl⟩))
          (fun _ _ hr => hm (by cases hr; exact ⟨rfl, .inr rfl⟩)), tokenize_no_E2 hE]
        rfl
    · rw [tokenize_plain_ne a _ ha, tokenize_no_E2 hE]
      exact .inr (.inr rfl)

theorem straddles_of_not_cont (q : List Byte) {a : Byte} (ha : isCont a = false) (t : List Byte) :
    straddles q (a :: t) = false := by
  unfold straddles
  split <;> first | rfl | (rename_i heq; cases heq; exact absurd ha (by decide))

/-- No marker straddles the boundary in front of a complete character: it starts with an ASCII or a lead byte. -/
theorem straddles_before_rune (q : List Byte) {r : List Byte} (h : validRuneB r = true) : straddles q r = false := by
  rcases valid_shape h with ⟨a, rfl, ha⟩ | ⟨a, b, t, rfl⟩
  · exact straddles_of_not_cont q (by simp [isCont]; exact fun h' => absurd (UInt8.lt_of_lt_of_le ha h') (UInt8.lt_irrefl _)) _
  · exact straddles_of_not_cont q (by simp [isCont]; exact fun _ => UInt8.lt_of_lt_of_le (by decide) (valid_bytes h).1) _

theorem tokenize_append_rune (q : List Byte) {r : List Byte} (h : validRuneB r = true) :
    tokenize (q ++ r) = tokenize q ++ tokenize r :=
  tokenize_append_of_not_straddles _ _ (straddles_before_rune q h)

/-! ### Byte strings and token lists that end in a complete character -/

/-- Pending bytes: empty, or ending in a complete character. -/
def EndsRune (p : List Byte) : Prop := p = [] ∨ ∃ q r, p = q ++ r ∧ validRuneB r = true

/-- The tail test of `InternalEscapeBytes` passes exactly on byte strings that are empty or end in a
complete UTF-8 character (`EndsRune`). -/
theorem tailBad_false_iff (l : List Byte) : tailBad l = false ↔ EndsRune l := by
  constructor
  · intro h
    cases hr : l.reverse with
    | nil => exact .inl (by simpa using hr)
    | cons last rev =>
      have hl : l = rev.reverse ++ [last] := by simpa using congrArg List.reverse hr
      by_cases hlast : last < 0x80
      · exact .inr ⟨rev.reverse, [last], hl, by simpa [validRuneB] using hlast⟩
      · -- the window `DecodeLastRune` looks at is a suffix, and decodes as a whole
        have hw := (tailBad_window hr hlast).mp h
        dsimp only at hw
        generalize (if backScan 3 rev 0 > rev.length then rev.length else backScan 3 rev 0) = back at hw
        refine .inr ⟨(rev.drop back).reverse, (rev.take back).reverse ++ [last], ?_, by simpa only [List.take_length] using valid_of_decodeRune hw⟩
        rw [hl, ← List.append_assoc, ← List.reverse_append, List.take_append_drop]
  · rintro (rfl | ⟨x, w, rfl, hw⟩)
    · decide
    · exact tailBad_valid x w hw

theorem endsRune_append {a b : List Byte} (ha : EndsRune a) (hb : EndsRune b) : EndsRune (a ++ b) := by
  rcases hb with rfl | ⟨q, r, rfl, hr⟩
  · simpa using ha
  · exact Or.inr ⟨a ++ q, r, by simp, hr⟩

theorem straddles_of_endsRune (a b : List Byte) (h : EndsRune a) : straddles a b = false := by
  rcases h with rfl | ⟨q, r, rfl, hr⟩
  · unfold straddles; simp
  · exact straddles_of_not_dangB _ _ (dangB_valid q r hr)

theorem tailBad_endB (x : List Byte) : tailBad (x ++ endB) = false := tailBad_valid x endB (by decide)

def AllMarkers (m : List Tok) : Prop := ∀ x ∈ m, x.isMarker = true

/-- Trailing markers aside, the tokens end with the bytes of a complete character (or there are
only markers). -/
def RuneEnd (t : List Tok) : Prop :=
  AllMarkers t ∨ ∃ u r m, t = u ++ r.map .b ++ m ∧ validRuneB r = true ∧ AllMarkers m

theorem allMarkers_nil : AllMarkers [] := nofun

theorem allMarkers_append {a b : List Tok} (ha : AllMarkers a) (hb : AllMarkers b) : AllMarkers (a ++ b) :=
  fun x hx => (List.mem_append.mp hx).elim (ha x) (hb x)

theorem allMarkers_snoc {m : List Tok} {x : Tok} (hm : AllMarkers m) (hx : x.isMarker = true) : AllMarkers (m ++ [x]) :=
  allMarkers_append hm (fun _ hy => List.mem_singleton.mp hy ▸ hx)

theorem allMarkers_dropLast {m : List Tok} (hm : AllMarkers m) : AllMarkers m.dropLast :=
  fun x hx => hm x (List.dropLast_subset m hx)

theorem runeEnd_nil : RuneEnd [] := Or.inl allMarkers_nil

theorem runeEnd_snoc_marker {t : List Tok} (h : RuneEnd t) {x : Tok} (hx : x.isMarker = true) : RuneEnd (t ++ [x]) := by
  rcases h with h | ⟨u, r, m, rfl, hr, hm⟩
  · exact Or.inl (allMarkers_snoc h hx)
  · exact Or.inr ⟨u, r, m ++ [x], by simp, hr, allMarkers_snoc hm hx⟩

theorem runeEnd_snoc_rune (t : List Tok) {r : List Byte} (hr : validRuneB r = true) : RuneEnd (t ++ r.map .b) :=
  Or.inr ⟨t, r, [], by simp, hr, allMarkers_nil⟩

/-- Eliding a trailing marker keeps the property. -/
theorem runeEnd_dropLast {t : List Tok} (h : RuneEnd t) {x : Tok} (hl : t.getLast? = some x) (hx : x.isMarker = true) :
    RuneEnd t.dropLast := by
  rcases h with h | ⟨u, r, m, rfl, hr, hm⟩
  · exact Or.inl (allMarkers_dropLast h)
  · by_cases hme : m = []
    · -- the last token would be a byte of `r`
      subst hme
      have hne : r ≠ [] := by rintro rfl; cases hr
      simp only [List.append_nil, List.getLast?_append, List.getLast?_map, List.getLast?_eq_some_getLast hne,
        Option.map_some, Option.some_or, Option.some.injEq] at hl
      subst hl; cases hx
    · refine Or.inr ⟨u, r, m.dropLast, ?_, hr, allMarkers_dropLast hm⟩
      rw [List.dropLast_append_of_ne_nil hme]

theorem runeEnd_append {a b : List Tok} (ha : RuneEnd a) (hb : RuneEnd b) : RuneEnd (a ++ b) := by
  rcases hb with hb | ⟨u, r, m, rfl, hr, hm⟩
  · rcases ha with ha | ⟨u, r, m, rfl, hr, hm⟩
    · exact Or.inl (allMarkers_append ha hb)
    · exact Or.inr ⟨u, r, m ++ b, by simp, hr, allMarkers_append hm hb⟩
  · exact Or.inr ⟨a ++ u, r, m, by simp, hr, hm⟩

theorem untok_map_b (r : List Byte) : untok (r.map .b) = r := by
  induction r with
  | nil => rfl
  | cons x r ih => simp [Tok.bytes, ih]

theorem endsRune_untok {t : List Tok} (h : RuneEnd t) : EndsRune (untok t) := by
  have markers {m : List Tok} (hm : AllMarkers m) : EndsRune (untok m) := by
    induction m with
    | nil => exact .inl rfl
    | cons x m ih =>
      have hx : validRuneB x.bytes = true := by
        cases x <;> first | rfl | exact absurd (hm _ (List.mem_cons_self ..)) Bool.false_ne_true
      exact endsRune_append (.inr ⟨[], _, rfl, hx⟩) (ih fun y hy => hm y (List.mem_cons_of_mem _ hy))
  rcases h with h | ⟨u, r, m, rfl, hr, hm⟩
  · exact markers h
  · rw [untok_append, untok_append, untok_map_b]
    exact endsRune_append (.inr ⟨_, r, rfl, hr⟩) (markers hm)

/-- The tail test is false on such a buffer. -/
theorem tailBad_of_runeEnd (l : List Byte) (h : RuneEnd (tokenize l)) : tailBad l = false :=
  (tailBad_false_iff l).mpr (untok_tokenize l ▸ endsRune_untok h)

/-- Pending tokens: empty, or ending in a marker or in the bytes of a complete character. -/
def PendRune (x : List Tok) : Prop :=
  x = [] ∨ ∃ y, x = y ++ [.s] ∨ x = y ++ [.e] ∨ ∃ r, x = y ++ r.map .b ∧ validRuneB r = true

theorem pendRune_of_bytes (p : List Byte) (h : EndsRune p) : PendRune (tokenize p) := by
  rcases h with rfl | ⟨q, r, rfl, hr⟩
  · exact Or.inl (by simp)
  · right
    rw [tokenize_append_rune q hr]
    rcases tokenize_rune hr with h1 | h1 | h1
    · exact ⟨tokenize q, Or.inl (by rw [h1])⟩
    · exact ⟨tokenize q, Or.inr (Or.inl (by rw [h1]))⟩
    · exact ⟨tokenize q, Or.inr (Or.inr ⟨r, by rw [h1], hr⟩)⟩

/-! ### `utf8.EncodeRune` always yields a complete character -/

/-- The rows of the `first` table that `EncodeRune` reaches, by the payload bits of the lead byte. -/
theorem lead2 : ∀ x : Fin 32, 2 ≤ x.val → leadInfo (UInt8.ofNat (0xC0 ||| x.val)) = some (2, 0x80, 0xBF) := by
  decide +kernel

theorem lead3 : ∀ x : Fin 16, leadInfo (UInt8.ofNat (0xE0 ||| x.val)) =
    some (3, if x.val = 0 then 0xA0 else 0x80, if x.val = 13 then 0x9F else 0xBF) := by decide +kernel

theorem lead4 : ∀ x : Fin 8, x.val ≤ 4 → leadInfo (UInt8.ofNat (0xF0 ||| x.val)) =
    some (4, if x.val = 0 then 0x90 else 0x80, if x.val = 4 then 0x8F else 0xBF) := by decide +kernel

/-- A byte `10xxxxxx`, and where it lies by its payload bits. -/
theorem cont_or : ∀ y : Fin 64, isCont (UInt8.ofNat (0x80 ||| y.val)) = true ∧
    (32 ≤ y.val → 0xA0 ≤ UInt8.ofNat (0x80 ||| y.val)) ∧ (y.val < 32 → UInt8.ofNat (0x80 ||| y.val) ≤ 0x9F) ∧
    (16 ≤ y.val → 0x90 ≤ UInt8.ofNat (0x80 ||| y.val)) ∧ (y.val < 16 → UInt8.ofNat (0x80 ||| y.val) ≤ 0x8F) := by
  decide +kernel


/-- Whatever the rune (valid or not: invalid ones encode U+FFFD), its encoding is one complete character. -/
theorem valid_encodeRune (r : Int) : validRuneB (encodeRune r) = true := by
  have cont (n : Nat) := cont_or ⟨n % 64, Nat.mod_lt _ (by decide)⟩
  rcases runeLen_cases r with h | ⟨h, h0, h1⟩ | ⟨h, h0, h1⟩ | ⟨h, h0, h1, hs⟩ | ⟨h, h0, h1⟩ <;>
    simp only [encodeRune, h, Nat.shiftRight_eq_div_pow, and3F]
  · decide
  · simp only [validRuneB, decide_eq_true_eq, UInt8.lt_iff_toNat_lt, UInt8.toNat_ofNat']
    show r.toNat % 256 < 128
    omega
  · obtain ⟨hx, hx2⟩ : r.toNat / 2 ^ 6 < 32 ∧ 2 ≤ r.toNat / 2 ^ 6 := by omega
    have hc := isCont_bounds (cont r.toNat).1
    exact valid_multi.mpr ⟨_, _, lead2 ⟨_, hx⟩ hx2, hc.1, hc.2, nofun⟩
  · obtain ⟨hx, hlo, hhi⟩ : r.toNat / 2 ^ 12 < 16 ∧ (r.toNat / 2 ^ 12 = 0 → 32 ≤ r.toNat / 2 ^ 6 % 64) ∧
        (r.toNat / 2 ^ 12 = 13 → r.toNat / 2 ^ 6 % 64 < 32) := by omega
    obtain ⟨hc, hA0, h9F, -, -⟩ := cont (r.toNat / 2 ^ 6)
    refine valid_multi.mpr ⟨_, _, lead3 ⟨_, hx⟩, ?_, ?_, List.forall_mem_cons.mpr ⟨(cont r.toNat).1, nofun⟩⟩
    · -- under `E0` the second byte starts at `A0`: no overlong forms
      show (if r.toNat / 2 ^ 12 = 0 then _ else _) ≤ _
      split
      · exact hA0 (hlo ‹_›)
      · exact (isCont_bounds hc).1
    · -- under `ED` it ends at `9F`: no surrogates
      show _ ≤ (if r.toNat / 2 ^ 12 = 13 then _ else _)
      split
      · exact h9F (hhi ‹_›)
      · exact (isCont_bounds hc).2
  · obtain ⟨hx, hx4, hlo, hhi⟩ : r.toNat / 2 ^ 18 < 8 ∧ r.toNat / 2 ^ 18 ≤ 4 ∧
        (r.toNat / 2 ^ 18 = 0 → 16 ≤ r.toNat / 2 ^ 12 % 64) ∧ (r.toNat / 2 ^ 18 = 4 → r.toNat / 2 ^ 12 % 64 < 16) := by omega
    obtain ⟨hc, -, -, h90, h8F⟩ := cont (r.toNat / 2 ^ 12)
    refine valid_multi.mpr ⟨_, _, lead4 ⟨_, hx⟩ hx4, ?_, ?_,
      List.forall_mem_cons.mpr ⟨(cont (r.toNat / 2 ^ 6)).1, List.forall_mem_cons.mpr ⟨(cont r.toNat).1, nofun⟩⟩⟩
    · -- under `F0` the second byte starts at `90`: no overlong forms
      show (if r.toNat / 2 ^ 18 = 0 then _ else _) ≤ _
      split
      · exact h90 (hlo ‹_›)
      · exact (isCont_bounds hc).1
    · -- under `F4` it ends at `8F`: nothing above U+10FFFF
      show _ ≤ (if r.toNat / 2 ^ 18 = 4 then _ else _)
      split
      · exact h8F (hhi ‹_›)
      · exact (isCont_bounds hc).2

theorem endsRune_encodeRune (r : Int) : EndsRune (encodeRune r) :=
  Or.inr ⟨[], encodeRune r, by simp, valid_encodeRune r⟩

/-! ### Well-formed UTF-8 -/

/-- Well-formed UTF-8: a sequence of complete characters. -/
inductive Utf8 : List Byte → Prop
  | nil : Utf8 []
  | cons (r p : List Byte) : validRuneB r = true → Utf8 p → Utf8 (r ++ p)

/-- Every valid UTF-8 payload meets the hypothesis of the two equalities. -/
theorem endsRune_of_utf8 {p : List Byte} (h : Utf8 p) : EndsRune p := by
  induction h with
  | nil => exact Or.inl rfl
  | cons r p hr _ ih => exact endsRune_append (.inr ⟨[], r, rfl, hr⟩) ih

end Redact
