import RedactVerif.Generated.Trans
import RedactVerif.Proofs.Escape
import RedactVerif.Props.TransBuffer
/-
The tie for `internal/escape/escape.go` by translation. `Generated/Trans.lean` holds
`InternalEscapeBytes` — its three loops, the lazy-copy bookkeeping (`res`, `copied`, `k`), the index
arithmetic (`i += ls - 1`, `i = lastNewLine - 1`, look-ahead bounds) — as the translator reads it off
/repo on every run, every index and slice expression guarded by its definedness. Here it is proved,
for every byte string, every start offset within it and both flags, to return — without panicking
and within its fuel — what the model's `escapeBytesAt` returns: the function that `escGo_refines`
(Proofs/Escape.lean) relates to the token-level specification, and on which C01/C03/C10 rest.

Structure: `scanIdx` is the main loop on natural-number indexes; `scanIdx_spec` relates it to `escGo`
(the mathematical content: the loop invariant "output so far = res ++ b[k:i]"); `loop2_spec` shows the
translated loop computes it (unfolding the generated code, one iteration per case: `step_*`).
-/
namespace Redact

def lfRun : List Byte → Nat
  | 0x0A :: r => lfRun r + 1
  | _ => 0

theorem lfRun_LF (r : List Byte) : lfRun (LF :: r) = lfRun r + 1 := rfl

theorem lfRun_of_ne {x : Byte} (h : x ≠ LF) (r : List Byte) : lfRun (x :: r) = 0 := by
  unfold lfRun
  split
  · rename_i heq; exact absurd (List.cons.inj heq).1 h
  · rfl

theorem take_lfRun (l : List Byte) : l.take (lfRun l) = List.replicate (lfRun l) LF := by
  fun_induction lfRun l with
  | case1 r ih => simp [List.replicate_succ, ih, LF]
  | case2 => rfl

theorem lfRun_le (l : List Byte) : lfRun l ≤ l.length := by
  fun_induction lfRun l <;> simp <;> omega

theorem add_lfRun_drop_le (b : List Byte) (i : Nat) (hi : i ≤ b.length) : i + lfRun (b.drop i) ≤ b.length := by
  have := lfRun_le (b.drop i)
  rw [List.length_drop] at this
  omega

/-- What the scanner does at a line feed: close the envelope, or drop a start marker just written. -/
def closeOrElide (out : List Byte) : List Byte :=
  if hasSuffix out startB then dropLast 3 out else out ++ endB

theorem closeOrElide_startB (o : List Byte) : closeOrElide (o ++ startB) = o := by
  rw [closeOrElide, if_pos ((hasSuffix_iff _ _).2 ⟨o, rfl⟩)]
  exact dropLast_append_three o _ _ _

theorem escGo_lf (out r : List Byte) :
    escGo true out (LF :: r) = escGo true (closeOrElide out ++ [LF] ++ startB) r := by
  simp [escGo, LF, closeOrElide]

/-- A whole run of line feeds at once (the Go code) is the same as one at a time (`escGo`): from the
second on, each finds the start marker just written, drops it and writes it again after itself. -/
theorem escGo_lf_run (n : Nat) (out rest : List Byte) :
    escGo true out (List.replicate (n + 1) LF ++ rest) =
      escGo true (closeOrElide out ++ List.replicate (n + 1) LF ++ startB) rest := by
  induction n generalizing out with
  | zero => exact escGo_lf out rest
  | succ n ih =>
    rw [List.replicate_succ, List.cons_append, escGo_lf, ih, closeOrElide_startB]
    simp [List.replicate_succ]

/-- `res` once the lazy copy has been made (`if !copied { res = make([]byte, 0, …) }`). -/
def matRes (copied : Bool) (res : List Byte) : List Byte := if copied then res else []

/-- `b[i:j]`. -/
def sl (b : List Byte) (i j : Nat) : List Byte := (b.take j).drop i

/-- The scanner's main loop on natural-number indexes. -/
def scanIdx (b : List Byte) (nl : Bool) : Nat → Nat → Nat → Bool → List Byte → Option (Nat × Bool × List Byte)
  | 0, _, _, _, _ => none
  | fuel + 1, i, k, copied, res =>
    if i < b.length then
      if nl && b.getD i 0 == LF then
        let j := i + lfRun (b.drop i)
        scanIdx b nl fuel j j true (closeOrElide (matRes copied res ++ sl b k i) ++ sl b i j ++ startB)
      else if decide (i + 3 ≤ b.length) && sl b i (i + 3) == startB then
        scanIdx b nl fuel (i + 3) (i + 3) true (matRes copied res ++ sl b k i ++ escB)
      else if decide (i + 3 ≤ b.length) && sl b i (i + 3) == endB then
        scanIdx b nl fuel (i + 3) (i + 3) true (matRes copied res ++ sl b k i ++ escB)
      else scanIdx b nl fuel (i + 1) k copied res
    else some (k, copied, res)

/-- The output so far: `res ++ b[k:i]` once copied, `b[:i]` before. -/
def accOf (b : List Byte) (i k : Nat) (copied : Bool) (res : List Byte) : List Byte :=
  if copied then res ++ sl b k i else b.take i

theorem sl_self (b : List Byte) (i : Nat) : sl b i i = [] := by
  unfold sl; simp

theorem sl_eq_take_drop (b : List Byte) (i n : Nat) : sl b i (i + n) = (b.drop i).take n := by
  unfold sl
  rw [List.drop_take]
  simp

theorem sl_to_end (b : List Byte) (k : Nat) : sl b k b.length = b.drop k := by
  unfold sl; simp

theorem sl_snoc (b : List Byte) (k i : Nat) (hk : k ≤ i) (hi : i < b.length) :
    sl b k (i + 1) = sl b k i ++ [b.getD i 0] := by
  unfold sl
  have : b.take (i + 1) = b.take i ++ [b.getD i 0] := by
    rw [List.take_succ]
    simp [List.getD, List.getElem?_eq_getElem hi]
  rw [this, List.drop_append_of_le_length (by simp; omega)]

theorem drop_cons_getD (b : List Byte) (i : Nat) (hi : i < b.length) : b.drop i = b.getD i 0 :: b.drop (i + 1) := by
  rw [List.drop_eq_getElem_cons hi]
  simp [List.getD, List.getElem?_eq_getElem hi]

theorem mat_acc (b : List Byte) (i k : Nat) (copied : Bool) (res : List Byte) (h0 : copied = false → k = 0) :
    matRes copied res ++ sl b k i = accOf b i k copied res := by
  cases copied with
  | true => rfl
  | false => simp [matRes, accOf, sl, h0 rfl]

theorem accOf_self (b : List Byte) (j : Nat) (res : List Byte) : accOf b j j true res = res := by
  simp [accOf, sl_self]

theorem accOf_succ (b : List Byte) (i k : Nat) (copied : Bool) (res : List Byte) (hk : k ≤ i) (hi : i < b.length) :
    accOf b (i + 1) k copied res = accOf b i k copied res ++ [b.getD i 0] := by
  unfold accOf
  split
  · rw [sl_snoc b k i hk hi, List.append_assoc]
  · exact sl_snoc b 0 i (Nat.zero_le _) hi

/-- The scanner's look-ahead test for a marker `m`, on the input that is left. -/
theorem look_iff (b : List Byte) (i : Nat) {m : List Byte} (hm : m.length = 3) :
    (decide (i + 3 ≤ b.length) && sl b i (i + 3) == m) = true ↔ (b.drop i).take 3 = m := by
  rw [sl_eq_take_drop, Bool.and_eq_true, decide_eq_true_eq, beq_iff_eq]
  refine ⟨And.right, fun h => ⟨?_, h⟩⟩
  have := congrArg List.length h
  rw [List.length_take, List.length_drop, hm] at this
  omega

theorem take3_eq {l : List Byte} {a b c : Byte} (h : l.take 3 = [a, b, c]) : l = a :: b :: c :: l.drop 3 := by
  match l, h with
  | x :: y :: z :: r, h => simp at h; obtain ⟨rfl, rfl, rfl⟩ := h; simp

theorem escGo_marker (nl : Bool) (out : List Byte) {l m : List Byte} (hm : m = startB ∨ m = endB) (h : l.take 3 = m) :
    escGo nl out l = escGo nl (out ++ escB) (l.drop 3) := by
  rcases hm with rfl | rfl <;> rw [take3_eq h] <;> simp [escGo]

theorem escGo_plain (nl : Bool) (out : List Byte) {l : List Byte} {x : Byte} {r : List Byte} (hl : l = x :: r)
    (hlf : (nl && x == LF) = false) (h1 : l.take 3 ≠ startB) (h2 : l.take 3 ≠ endB) :
    escGo nl out l = escGo nl (out ++ [x]) r := by
  subst hl
  rw [escGo.eq_4]
  · simp [hlf]
  · intro r' hx hr; subst hx hr; exact h1 (by simp [startB])
  · intro r' hx hr; subst hx hr; exact h2 (by simp [endB])

theorem fuel_step {n i j fuel : Nat} (hf : n - i < fuel + 1) (hij : i < j) (hj : j ≤ n) : n - j < fuel := by omega

/-- **The loop invariant**: the index-level loop computes `escGo` on what is left of the input,
starting from the output so far. -/
theorem scanIdx_spec (b : List Byte) (nl : Bool) : ∀ (fuel i k : Nat) (copied : Bool) (res : List Byte),
    k ≤ i → i ≤ b.length → (copied = false → k = 0) → b.length - i < fuel →
    ∃ k' c' res', scanIdx b nl fuel i k copied res = some (k', c', res') ∧ k' ≤ b.length ∧ (c' = false → k' = 0) ∧
      accOf b b.length k' c' res' = escGo nl (accOf b i k copied res) (b.drop i) := by
  intro fuel i k copied res
  -- in each case: the invariant after the step, by the induction hypothesis, and then one step of `escGo`
  fun_induction scanIdx b nl fuel i k copied res with
  | case1 => omega
  | case2 fuel i k copied res hlt hlf j ih =>
    intro hk hi h0 hf
    simp only [Bool.and_eq_true, beq_iff_eq] at hlf
    obtain ⟨rfl, hx⟩ := hlf
    obtain ⟨n, hn⟩ : ∃ n, lfRun (b.drop i) = n + 1 := by
      rw [drop_cons_getD b i hlt, hx]; exact ⟨_, lfRun_LF _⟩
    have hj := add_lfRun_drop_le b i hi
    obtain ⟨k', c', res', e, hk', hc', hacc⟩ := ih (Nat.le_refl _) hj (by simp) (fuel_step hf (by omega) hj)
    refine ⟨k', c', res', e, hk', hc', hacc.trans ?_⟩
    have hrun : sl b i j = List.replicate (n + 1) LF := by rw [sl_eq_take_drop, take_lfRun, hn]
    have hsplit : b.drop i = List.replicate (n + 1) LF ++ b.drop j := by
      rw [← hn, ← take_lfRun, ← List.drop_drop, List.take_append_drop]
    rw [accOf_self, hrun, hsplit, escGo_lf_run, mat_acc b i k copied res h0]
  | case3 fuel i k copied res hlt _ hs ih | case4 fuel i k copied res hlt _ _ hs ih =>
    intro hk hi h0 hf
    have h3 : i + 3 ≤ b.length := of_decide_eq_true (Bool.and_eq_true_iff.1 hs).1
    obtain ⟨k', c', res', e, hk', hc', hacc⟩ := ih (Nat.le_refl _) h3 (by simp) (fuel_step hf (by omega) h3)
    refine ⟨k', c', res', e, hk', hc', hacc.trans ?_⟩
    rw [accOf_self, mat_acc b i k copied res h0, escGo_marker nl _ (by simp) ((look_iff b i rfl).1 hs), List.drop_drop]
  | case5 fuel i k copied res hlt hlf hs he ih =>
    intro hk hi h0 hf
    obtain ⟨k', c', res', e, hk', hc', hacc⟩ := ih (by omega) hlt h0 (fuel_step hf (Nat.lt_succ_self i) hlt)
    refine ⟨k', c', res', e, hk', hc', hacc.trans ?_⟩
    rw [accOf_succ b i k copied res hk hlt, escGo_plain nl _ (drop_cons_getD b i hlt) (eq_false_of_ne_true hlf)
      (mt (look_iff b i rfl).2 hs) (mt (look_iff b i rfl).2 he)]
  | case6 fuel i k copied res hge =>
    intro hk hi h0 hf
    obtain rfl : i = b.length := by omega
    exact ⟨k, copied, res, rfl, by omega, h0, by simp [escGo]⟩

/-- A pass that never had to copy leaves `res` alone. -/
theorem scanIdx_not_copied (b : List Byte) (nl : Bool) (fuel i k : Nat) (copied : Bool) (res : List Byte) (k' : Nat)
    (res' : List Byte) : scanIdx b nl fuel i k copied res = some (k', false, res') → copied = false ∧ res' = res := by
  fun_induction scanIdx b nl fuel i k copied res with
  | case1 => nofun
  | case2 _ _ _ _ _ _ _ _ ih | case3 _ _ _ _ _ _ _ _ ih | case4 _ _ _ _ _ _ _ _ _ ih => exact fun h => nomatch (ih h).1
  | case5 _ _ _ _ _ _ _ _ _ ih => exact ih
  | case6 => intro h; cases h; exact ⟨rfl, rfl⟩

open Trans in
/-- The translated function's variables during the main loop. -/
def mkV (b : List Byte) (sl0 : Int) (nl st : Bool) (e1 i0 : Int) (copied : Bool) (res : List Byte) (k i : Nat) (ln r0 s0 : Int) :
    InternalEscapeBytes.Vars :=
  { b := b, startLoc := sl0, breakNewLines := nl, strip := st, res := res, start := startB, ls := 3, end' := endB, le := 3,
    escape := escB, end'_1 := e1, i := i0, copied := copied, k := (k : Int), i_1 := (i : Int), lastNewLine := ln, r := r0, s := s0 }

theorem goIndex_nat (l : List Byte) (i : Nat) : goIndex l (i : Int) = l.getD i 0 := by
  simp [goIndex]

theorem goInRange_nat (l : List Byte) (i : Nat) : goInRange l (i : Int) = decide (i < l.length) := by
  simp [goInRange]

theorem goSlice_nat (l : List Byte) (a c : Nat) (h : a ≤ c) (hc : c ≤ l.length) : goSlice l (a : Int) (c : Int) = sl l a c := by
  unfold goSlice sl
  have : (0 : Int) ≤ (a : Int) ∧ (a : Int) ≤ (c : Int) ∧ (c : Int).toNat ≤ l.length := ⟨by omega, by omega, by simpa using hc⟩
  rw [if_pos this]; simp

theorem goSliceOK_nat (l : List Byte) (a c : Nat) (h : a ≤ c) (hc : c ≤ l.length) : goSliceOK l (a : Int) (c : Int) = true := by
  unfold goSliceOK
  simp; omega

theorem goSliceFrom_nat (l : List Byte) (a : Nat) (h : a ≤ l.length) : goSliceFrom l (a : Int) = l.drop a := by
  unfold goSliceFrom
  have : (0 : Int) ≤ (a : Int) ∧ (a : Int).toNat ≤ l.length := ⟨by omega, by simpa using h⟩
  rw [if_pos this]; simp

theorem goSliceTo_nat (l : List Byte) (a : Nat) (h : a ≤ l.length) : goSliceTo l (a : Int) = l.take a := by
  unfold goSliceTo
  have : (0 : Int) ≤ (a : Int) ∧ (a : Int).toNat ≤ l.length := ⟨by omega, by simpa using h⟩
  rw [if_pos this]; simp

theorem goSliceOK_to_end (l : List Byte) (k : Nat) (h : k ≤ l.length) : goSliceOK l (k : Int) (l.length : Int) = true :=
  goSliceOK_nat l k l.length h (Nat.le_refl _)

theorem goGuard_true : goGuard true = some () := rfl

/-- The inner loop: advance `lastNewLine` over the run of line feeds. -/
theorem loop3_spec (b : List Byte) : ∀ (fuel : Nat) (v : Trans.InternalEscapeBytes.Vars) (j : Nat),
    v.b = b → v.lastNewLine = (j : Int) → j ≤ b.length → b.length - j < fuel →
    Trans.InternalEscapeBytes.loop3 fuel v = some { v with lastNewLine := ((j + lfRun (b.drop j) : Nat) : Int) } := by
  intro fuel
  induction fuel with
  | zero => intro v j _ _ _ hf; omega
  | succ fuel ih =>
    intro v j hb hl hj hf
    subst hb
    unfold Trans.InternalEscapeBytes.loop3
    simp only [hl, goLen, goInRange_nat, goIndex_nat, Int.ofNat_lt, Option.pure_def, Option.bind_eq_bind]
    by_cases hlt : j < v.b.length
    · rw [drop_cons_getD v.b j hlt]
      by_cases hx : v.b.getD j 0 = LF
      · have := ih { v with lastNewLine := (j : Int) + 1 } (j + 1) rfl rfl hlt (fuel_step hf (Nat.lt_succ_self j) hlt)
        simp only [hlt, hx, lfRun_LF, show (LF == 10) = true from rfl, decide_true, Bool.not_true, Bool.false_or, goGuard_true,
          Bool.true_and, Bool.false_eq_true, if_false, Option.bind_some, this, ← Nat.add_assoc, Nat.add_right_comm j]
      · simp only [hlt, lfRun_of_ne hx, show (v.b.getD j 0 == 10) = false from beq_eq_false_iff_ne.2 hx, decide_true,
          Bool.not_true, Bool.false_or, goGuard_true, Bool.and_false, Bool.not_false, if_true, Option.bind_some, Nat.add_zero, ← hl]
    · simp only [hlt, List.drop_eq_nil_of_le (Nat.le_of_not_lt hlt), show lfRun [] = 0 from rfl, decide_false, Bool.not_false,
        Bool.true_or, goGuard_true, Bool.false_and, if_true, Option.bind_some, Nat.add_zero, ← hl]

open Trans

theorem goSlice_nat3 (l : List Byte) (i : Nat) (h : i + 3 ≤ l.length) : goSlice l (i : Int) ((i : Int) + 3) = sl l i (i + 3) := by
  have := goSlice_nat l i (i + 3) (by omega) h
  simpa using this

theorem goSliceOK_nat3 (l : List Byte) (i : Nat) (h : i + 3 ≤ l.length) : goSliceOK l (i : Int) ((i : Int) + 3) = true := by
  have := goSliceOK_nat l i (i + 3) (by omega) h
  simpa using this

/-- The guard and the test of a 3-byte look-ahead, on naturals. -/
theorem look3 (b : List Byte) (i : Nat) (m : List Byte) :
    ((!decide ((i : Int) + 3 ≤ (b.length : Int)) || goSliceOK b (i : Int) ((i : Int) + 3)) = true) ∧
    ((decide ((i : Int) + 3 ≤ (b.length : Int)) && goSlice b (i : Int) ((i : Int) + 3) == m) =
      (decide (i + 3 ≤ b.length) && sl b i (i + 3) == m)) := by
  by_cases h : i + 3 ≤ b.length
  · have hc : (i : Int) + 3 ≤ (b.length : Int) := by omega
    simp [hc, h, goSlice_nat3 b i h, goSliceOK_nat3 b i h]
  · have hc : ¬ (i : Int) + 3 ≤ (b.length : Int) := by omega
    simp [hc, h]

/-! One iteration of the translated main loop in each of `scanIdx`'s cases: the body is unfolded and
evaluated on the state `mkV …` by `simp` with the facts of the case. -/

theorem step_plain (b : List Byte) (sl0 : Int) (nl st : Bool) (e1 i0 r0 s0 : Int) (fuel : Nat) (copied : Bool) (res : List Byte)
    (k i : Nat) (ln : Int) (hlt : i < b.length)
    (hlf : (nl && b.getD i 0 == LF) = false)
    (hs : (decide (i + 3 ≤ b.length) && sl b i (i + 3) == startB) = false)
    (he : (decide (i + 3 ≤ b.length) && sl b i (i + 3) == endB) = false) :
    InternalEscapeBytes.loop2 (fuel + 1) (mkV b sl0 nl st e1 i0 copied res k i ln r0 s0) =
      InternalEscapeBytes.loop2 fuel (mkV b sl0 nl st e1 i0 copied res k (i + 1) ln r0 s0) := by
  conv => lhs; unfold InternalEscapeBytes.loop2
  simp only [mkV, goLen, goInRange_nat, goIndex_nat, Int.ofNat_lt, hlt, show (10 : Byte) = LF from rfl, hlf, decide_true,
    Bool.not_true, Bool.or_true, goGuard_true, Bool.false_eq_true, if_false, Option.bind_some, Option.pure_def, Option.bind_eq_bind,
    Int.natCast_add, Int.cast_ofNat_Int]
  by_cases h3 : i + 3 ≤ b.length
  · have hc3 : (i : Int) + 3 ≤ b.length := by omega
    simp only [h3, decide_true, Bool.true_and] at hs he
    simp only [hc3, goSliceOK_nat3 b i h3, goSlice_nat3 b i h3, hs, he, decide_true, Bool.not_true, Bool.or_true, Bool.true_and,
      goGuard_true, Bool.false_eq_true, if_false, Option.bind_some]
  · have hc3 : ¬ (i : Int) + 3 ≤ b.length := by omega
    simp only [hc3, decide_false, Bool.not_false, Bool.true_or, Bool.false_and, goGuard_true, Bool.false_eq_true, if_false,
      Option.bind_some]

theorem step_marker (b : List Byte) (sl0 : Int) (nl st : Bool) (e1 i0 r0 s0 : Int) (fuel : Nat) (copied : Bool) (res : List Byte)
    (k i : Nat) (ln : Int) (hk : k ≤ i) (h3 : i + 3 ≤ b.length)
    (hlf : (nl && b.getD i 0 == LF) = false)
    (hm : sl b i (i + 3) = startB ∨ (sl b i (i + 3) ≠ startB ∧ sl b i (i + 3) = endB)) :
    InternalEscapeBytes.loop2 (fuel + 1) (mkV b sl0 nl st e1 i0 copied res k i ln r0 s0) =
      InternalEscapeBytes.loop2 fuel (mkV b sl0 nl st e1 i0 true (matRes copied res ++ sl b k i ++ escB) (i + 3) (i + 3) ln r0 s0) := by
  have hlt : i < b.length := by omega
  have hc3 : (i : Int) + 3 ≤ b.length := by omega
  have ea : (i : Int) + (3 - 1) + 1 = i + 3 := by omega
  conv => lhs; unfold InternalEscapeBytes.loop2
  simp only [mkV, goLen, goInRange_nat, goIndex_nat, Int.ofNat_lt, hlt, show (10 : Byte) = LF from rfl, hlf, hc3,
    goSliceOK_nat3 b i h3, goSlice_nat3 b i h3, goSliceOK_nat b k i hk (Nat.le_of_lt hlt), goSlice_nat b k i hk (Nat.le_of_lt hlt), ea,
    decide_true, Bool.not_true, Bool.or_true, Bool.true_and, goGuard_true, Bool.false_eq_true, if_false, Option.bind_some,
    Option.pure_def, Option.bind_eq_bind, Int.natCast_add, Int.cast_ofNat_Int]
  rcases hm with hm | ⟨hne, hm⟩ <;> cases copied <;> simp [hm, matRes]

theorem goSliceOK_dropLast {l s : List Byte} (h : hasSuffix l s = true) (hs : s.length = 3) :
    goSliceOK l 0 ((l.length : Int) - 3) = true := by
  have hl := length_of_hasSuffix h
  unfold goSliceOK
  have : ((l.length : Int) - 3).toNat ≤ l.length := by omega
  simp [this]; omega

/-- The Go idiom `if bytes.HasSuffix(res, start) { res = res[:len(res)-ls] } else { res = append(res, end...) }`,
in front of any continuation `f`. -/
theorem closeOrElide_go {α : Type} (R : List Byte) (f : List Byte → Option α) :
    (if goHasSuffix R startB = true then
        (goGuard (goSliceOK R 0 ((R.length : Int) - 3))).bind fun _ => f (goSliceTo R ((R.length : Int) - 3))
      else f (R ++ endB)) = f (closeOrElide R) := by
  unfold closeOrElide goHasSuffix
  split
  · rename_i h
    rw [goSliceOK_dropLast h rfl, goGuard_true, Option.bind_some]
    exact congrArg f (goSliceTo_dropLast h rfl)
  · rfl

theorem step_lf (b : List Byte) (sl0 : Int) (st : Bool) (e1 i0 r0 s0 : Int) (fuel : Nat) (copied : Bool) (res : List Byte)
    (k i : Nat) (ln : Int) (hk : k ≤ i) (hlt : i < b.length) (hx : b.getD i 0 = LF) :
    InternalEscapeBytes.loop2 (fuel + 1) (mkV b sl0 true st e1 i0 copied res k i ln r0 s0) =
      InternalEscapeBytes.loop2 fuel (mkV b sl0 true st e1 i0 true
        (closeOrElide (matRes copied res ++ sl b k i) ++ sl b i (i + lfRun (b.drop i)) ++ startB)
        (i + lfRun (b.drop i)) (i + lfRun (b.drop i)) ((i + lfRun (b.drop i) : Nat) : Int) r0 s0) := by
  have hj := add_lfRun_drop_le b i (Nat.le_of_lt hlt)
  -- the inner loop, whatever `res` and `copied` are by then
  have hl3 : ∀ R c, InternalEscapeBytes.loop3 (b.length + 1)
      ⟨b, sl0, true, st, R, startB, 3, endB, 3, escB, e1, i0, c, (k : Int), (i : Int), (i : Int), r0, s0⟩ =
      some ⟨b, sl0, true, st, R, startB, 3, endB, 3, escB, e1, i0, c, (k : Int), (i : Int), ((i + lfRun (b.drop i) : Nat) : Int), r0, s0⟩ :=
    fun R c => loop3_spec b _ _ i rfl rfl (Nat.le_of_lt hlt) (by omega)
  conv => lhs; unfold InternalEscapeBytes.loop2
  conv => lhs; simp only [mkV, goLen, goInRange_nat, goIndex_nat, Int.ofNat_lt, hlt, hx, show (LF == 10) = true from rfl,
    goSliceOK_nat b k i hk (Nat.le_of_lt hlt), goSlice_nat b k i hk (Nat.le_of_lt hlt), Int.toNat_natCast, hl3,
    goSliceOK_nat b i _ (Nat.le_add_right _ _) hj, goSlice_nat b i _ (Nat.le_add_right _ _) hj, Int.sub_add_cancel,
    decide_true, Bool.not_true, Bool.or_true, Bool.true_and, goGuard_true, if_true, Bool.false_eq_true, if_false, Option.bind_some,
    Option.pure_def, Option.bind_eq_bind]
  cases copied <;> simp only [Bool.not_false, Bool.not_true, Bool.false_eq_true, if_true, if_false] <;>
    exact closeOrElide_go _ fun x =>
      InternalEscapeBytes.loop2 fuel (mkV b sl0 true st e1 i0 true (x ++ sl b i _ ++ startB) _ _ _ r0 s0)

theorem step_exit (b : List Byte) (sl0 : Int) (nl st : Bool) (e1 i0 r0 s0 : Int) (fuel : Nat) (copied : Bool) (res : List Byte)
    (k i : Nat) (ln : Int) (hge : ¬ i < b.length) :
    InternalEscapeBytes.loop2 (fuel + 1) (mkV b sl0 nl st e1 i0 copied res k i ln r0 s0) =
      some (mkV b sl0 nl st e1 i0 copied res k i ln r0 s0) := by
  have hc : ¬ (i : Int) < (b.length : Int) := by omega
  conv => lhs; unfold InternalEscapeBytes.loop2
  simp [mkV, goLen, hc]

/-- **The translated main loop computes the index-level loop.** -/
theorem loop2_spec (b : List Byte) (sl0 : Int) (nl st : Bool) (e1 i0 r0 s0 : Int) :
    ∀ (fuel : Nat) (copied : Bool) (res : List Byte) (k i : Nat) (ln : Int), k ≤ i → i ≤ b.length →
    ∀ k' c' res', scanIdx b nl fuel i k copied res = some (k', c', res') →
    ∃ i' ln', InternalEscapeBytes.loop2 fuel (mkV b sl0 nl st e1 i0 copied res k i ln r0 s0) =
      some (mkV b sl0 nl st e1 i0 c' res' k' i' ln' r0 s0) := by
  intro fuel copied res k i
  fun_induction scanIdx b nl fuel i k copied res with
  | case1 => nofun
  | case2 fuel i k copied res hlt hlf j ih =>
    intro ln hk hi
    obtain ⟨rfl, hx⟩ : nl = true ∧ b.getD i 0 = LF := by simpa using hlf
    rw [step_lf b sl0 st e1 i0 r0 s0 fuel copied res k i ln hk hlt hx]
    exact ih _ (Nat.le_refl _) (add_lfRun_drop_le b i hi)
  | case3 fuel i k copied res hlt hlf hs ih =>
    intro ln hk hi
    obtain ⟨h3, hm⟩ : i + 3 ≤ b.length ∧ sl b i (i + 3) = startB := by simpa using hs
    rw [step_marker b sl0 nl st e1 i0 r0 s0 fuel copied res k i ln hk h3 (eq_false_of_ne_true hlf) (.inl hm)]
    exact ih _ (Nat.le_refl _) h3
  | case4 fuel i k copied res hlt hlf hs he ih =>
    intro ln hk hi
    obtain ⟨h3, hm⟩ : i + 3 ≤ b.length ∧ sl b i (i + 3) = endB := by simpa using he
    have hne : sl b i (i + 3) ≠ startB := fun h => hs (by simp [h3, h])
    rw [step_marker b sl0 nl st e1 i0 r0 s0 fuel copied res k i ln hk h3 (eq_false_of_ne_true hlf) (.inr ⟨hne, hm⟩)]
    exact ih _ (Nat.le_refl _) h3
  | case5 fuel i k copied res hlt hlf hs he ih =>
    intro ln hk hi
    rw [step_plain b sl0 nl st e1 i0 r0 s0 fuel copied res k i ln hlt (eq_false_of_ne_true hlf) (eq_false_of_ne_true hs)
      (eq_false_of_ne_true he)]
    exact ih _ (Nat.le_succ_of_le hk) hlt
  | case6 fuel i k copied res hge =>
    intro ln _ _ k' c' res' h
    cases h
    exact ⟨i, ln, step_exit b sl0 nl st e1 i0 r0 s0 fuel copied res k i ln hge⟩

def isTrim (x : Byte) : Bool := x == LF || x == 0x20

/-- Where the trimming loop leaves `end`: the scan from `e` down to `lo`. -/
def trimIdx (b : List Byte) (lo : Nat) : Nat → Nat
  | 0 => 0
  | e + 1 => if lo ≤ e ∧ isTrim (b.getD e 0) = true then trimIdx b lo e else e + 1

theorem trimIdx_ge (b : List Byte) (lo : Nat) : ∀ e, lo ≤ e → lo ≤ trimIdx b lo e := by
  intro e
  fun_induction trimIdx b lo e with
  | case1 => exact id
  | case2 e hc ih => exact fun _ => ih hc.1
  | case3 => exact id

theorem trimIdx_le (b : List Byte) (lo : Nat) : ∀ e, trimIdx b lo e ≤ e := by
  intro e
  fun_induction trimIdx b lo e <;> omega

theorem take_trimIdx (b : List Byte) (lo : Nat) : ∀ e, lo ≤ e → e ≤ b.length →
    b.take (trimIdx b lo e) = b.take lo ++ ((sl b lo e).reverse.dropWhile (fun x => x == LF || x == 0x20)).reverse := by
  intro e
  induction e with
  | zero =>
    intro h _
    have : lo = 0 := by omega
    subst this
    simp [trimIdx, sl]
  | succ e ih =>
    intro h he
    by_cases hlo : lo ≤ e
    · have hlt : e < b.length := by omega
      have hsn := sl_snoc b lo e hlo hlt
      rw [hsn, List.reverse_append, List.reverse_singleton, List.singleton_append, List.dropWhile_cons]
      unfold trimIdx
      by_cases ht : isTrim (b.getD e 0) = true
      · have ht' : (b.getD e 0 == LF || b.getD e 0 == 0x20) = true := ht
        rw [if_pos ⟨hlo, ht⟩, if_pos ht']
        exact ih hlo (by omega)
      · have ht' : ¬ (b.getD e 0 == LF || b.getD e 0 == 0x20) = true := ht
        rw [if_neg (fun hh => ht hh.2), if_neg ht']
        simp only [List.reverse_cons, List.reverse_reverse]
        rw [← hsn]
        unfold sl
        have h1 := List.take_append_drop lo (b.take (e + 1))
        rw [List.take_take, Nat.min_eq_left (by omega)] at h1
        exact h1.symm
    · have : lo = e + 1 := by omega
      subst this
      unfold trimIdx
      rw [if_neg (fun hh => hlo hh.1)]
      simp [sl]

theorem take_trimIdx_eq_trimTail (b : List Byte) (lo : Nat) (h : lo ≤ b.length) :
    b.take (trimIdx b lo b.length) = trimTail b lo := by
  rw [take_trimIdx b lo b.length h (Nat.le_refl _)]
  unfold trimTail sl
  simp

/-- The translated trimming loop leaves `end` at `trimIdx`. -/
theorem loop1_spec (b : List Byte) (lo : Nat) : ∀ (fuel : Nat) (v : InternalEscapeBytes.Vars) (e : Nat),
    v.b = b → v.startLoc = (lo : Int) → v.end'_1 = (e : Int) → v.i = (e : Int) - 1 → e ≤ b.length → e < fuel →
    ∃ i', InternalEscapeBytes.loop1 fuel v = some { v with end'_1 := ((trimIdx b lo e : Nat) : Int), i := i' } := by
  intro fuel
  induction fuel with
  | zero => intro v e _ _ _ _ _ hf; omega
  | succ fuel ih =>
    intro v e hb hs he hi hle hf
    rcases v with ⟨vb, vsl, f3, f4, f5, f6, f7, f8, f9, f10, ve, vi, f13, f14, f15, f16, f17, f18⟩
    simp only at hb hs he hi
    subst hb hs he hi
    unfold InternalEscapeBytes.loop1
    cases e with
    | zero =>
      have hneg : ¬ (lo : Int) ≤ -1 := by omega
      refine ⟨-1, ?_⟩
      simp [hneg, trimIdx]
    | succ e' =>
      by_cases hlo : lo ≤ e'
      · have hlt : e' < vb.length := by omega
        by_cases ht : isTrim (vb.getD e' 0) = true
        · obtain ⟨i', hrec⟩ := ih ⟨vb, (lo : Int), f3, f4, f5, f6, f7, f8, f9, f10, (e' : Int), (e' : Int) - 1, f13, f14, f15, f16, f17, f18⟩ e'
            rfl rfl rfl rfl (by omega) (by omega)
          refine ⟨i', ?_⟩
          have hg : vb.getD e' 0 = vb[e'] := by simp [List.getD, hlt]
          have ht' : vb[e'] = 10 ∨ vb[e'] = 32 := by
            have := ht; rw [hg] at this; simpa [isTrim, LF] using this
          have hti : trimIdx vb lo (e' + 1) = trimIdx vb lo e' := by rw [trimIdx, if_pos ⟨hlo, ht⟩]
          simp [hlo, hlt, goInRange_nat, goIndex_nat, goGuard, ht', hti, hrec]
        · refine ⟨(e' : Int), ?_⟩
          have hg : vb.getD e' 0 = vb[e'] := by simp [List.getD, hlt]
          have ht' : ¬ (vb[e'] = 10 ∨ vb[e'] = 32) := by
            have := ht; rw [hg] at this; simpa [isTrim, LF] using this
          have hti : trimIdx vb lo (e' + 1) = e' + 1 := by rw [trimIdx, if_neg (fun hh => ht hh.2)]
          simp [hlo, hlt, goInRange_nat, goIndex_nat, goGuard, ht', hti]
      · refine ⟨(e' : Int), ?_⟩
        have hti : trimIdx vb lo (e' + 1) = e' + 1 := by rw [trimIdx, if_neg (fun hh => hlo hh.1)]
        simp [hlo, hti]

theorem tail_test (l : List Byte) :
    ((goDecodeLastRune l).snd == 1 && (goDecodeLastRune l).fst == 65533) = tailBad l := by
  unfold goDecodeLastRune
  cases l with
  | nil => simp [tailBad]
  | cons x r =>
    simp only [List.isEmpty_cons, Bool.false_eq_true, if_false]
    cases tailBad (x :: r) <;> simp

/-- What the epilogue (truncated-UTF-8 guard, final copy) returns, as a function of the loop's result. -/
def finRes (b : List Byte) (c : Bool) (res : List Byte) (k : Nat) : List Byte :=
  if tailBad b then matRes c res ++ b.drop k ++ escB else if c then res ++ b.drop k else res

/-- From the main loop on: whatever the epilogue `T` is, if on the loop's possible results it returns
`finRes`, the whole returns the model's answer for the (already trimmed) input `b`. -/
theorem core (b : List Byte) (lo : Nat) (nl st : Bool) (e1 i0 r0 s0 ln0 : Int) (hlo : lo ≤ b.length)
    (T : InternalEscapeBytes.Vars → Option InternalEscapeBytes.Vars)
    (hT : ∀ (c' : Bool) (res' : List Byte) (k' : Nat) (i' : Nat) (ln' : Int), k' ≤ b.length →
      (T (mkV b (lo : Int) nl st e1 i0 c' res' k' i' ln' r0 s0)).map (·.res) = some (finRes b c' res' k')) :
    ((InternalEscapeBytes.loop2 (b.length + 1) (mkV b (lo : Int) nl st e1 i0 false b 0 lo ln0 r0 s0)).bind T).map (·.res) =
      some (let out := escGo nl (b.take lo) (b.drop lo); if tailBad b then out ++ escB else out) := by
  obtain ⟨k', c', res', hscan, hk', hc', hacc⟩ :=
    scanIdx_spec b nl (b.length + 1) lo 0 false b (Nat.zero_le _) hlo (fun _ => rfl) (by omega)
  obtain ⟨i', ln', hloop⟩ :=
    loop2_spec b (lo : Int) nl st e1 i0 r0 s0 (b.length + 1) false b 0 lo ln0 (Nat.zero_le _) hlo k' c' res' hscan
  rw [hloop, Option.bind_some, hT c' res' k' i' ln' hk']
  show some _ = some (let out := escGo nl (accOf b lo 0 false b) (b.drop lo); if tailBad b then out ++ escB else out)
  rw [← hacc]
  -- `finRes` is the output so far at the end of the input, with the guard's `?`
  cases c' with
  | true => simp [finRes, accOf, matRes, sl_to_end]
  | false =>
    obtain rfl := hc' rfl
    obtain rfl := (scanIdx_not_copied b nl _ _ _ _ _ _ _ hscan).2
    simp [finRes, accOf, matRes]

/-- **The translated `InternalEscapeBytes` is the model's `escapeBytesAt`**: for every byte string,
every start offset inside it and both flags it returns — no index or slice out of range, every loop
within its fuel — exactly what the model returns. -/
theorem internalEscapeBytes_translated (b : List Byte) (lo : Nat) (nl strip : Bool) (h : lo ≤ b.length) :
    Trans.InternalEscapeBytes b (lo : Int) nl strip = some (escapeBytesAt b lo nl strip) := by
  cases strip
  case' false =>
    unfold Trans.InternalEscapeBytes InternalEscapeBytes.run escapeBytesAt
    simp only [Bool.false_eq_true, if_false, goLen, Option.pure_def, Option.bind_eq_bind, Int.toNat_natCast]
    refine core b lo nl false 0 0 0 0 0 h _ ?_
  case' true =>
    -- What the trimming loop does is established first: once the function is unfolded the goal is a
    -- large term (every assignment a new 18-field record), and rewriting in it is dear.
    obtain ⟨i', hl1⟩ := loop1_spec b lo (b.length + 1)
      { b := b, startLoc := (lo : Int), breakNewLines := nl, strip := true, start := [226, 128, 185],
        ls := (([226, 128, 185] : List Byte).length : Int), end' := [226, 128, 186], le := (([226, 128, 186] : List Byte).length : Int),
        escape := [63], end'_1 := (b.length : Int), i := (b.length : Int) - 1 } b.length rfl rfl rfl rfl (Nat.le_refl _) (by omega)
    have ht1 := trimIdx_le b lo b.length
    have ht2 := trimIdx_ge b lo b.length h
    have htk := goSliceTo_nat b (trimIdx b lo b.length) ht1
    have hok : goSliceOK b 0 ((trimIdx b lo b.length : Nat) : Int) = true := by
      simpa using goSliceOK_nat b 0 (trimIdx b lo b.length) (Nat.zero_le _) ht1
    have htt := take_trimIdx_eq_trimTail b lo h
    have hlo' : lo ≤ (trimTail b lo).length := by
      rw [← htt, List.length_take]; omega
    unfold Trans.InternalEscapeBytes InternalEscapeBytes.run escapeBytesAt
    simp only [if_true, goLen, Option.pure_def, Option.bind_eq_bind, Option.bind_some, Int.toNat_natCast, hl1, hok, goGuard_true,
      htk, htt]
    refine core (trimTail b lo) lo nl true _ _ 0 0 0 hlo' _ ?_
  -- in both cases what is left is the epilogue, on a result of the main loop
  all_goals
    intro c' res' k' i' ln' hk'
    simp only [mkV, tail_test, goSliceOK_to_end _ k' hk', goSliceFrom_nat _ k' hk', goSliceOK_to_end _ _ (Nat.le_refl _),
      goSliceFrom_nat _ _ (Nat.le_refl _), List.drop_length, List.append_nil, goGuard_true, Option.bind_some, finRes]
    cases c' <;> cases tailBad _ <;> rfl

/-- The buffer's use of the scanner (`escapeToEnd`): on every state whose validated prefix lies within
the buffer (part of the buffer invariant `Inv`), the translated scanner returns what the model's
`escapeToEnd` stores. This is what justifies reading `escape.InternalEscapeBytes` as the model's
`escapeBytesAt` in the translation of `buffer.go` (Model/GoPrelude.lean: `goInternalEscapeBytes`). -/
theorem escapeToEnd_scanner (b : Buffer) (nl : Bool) (h : b.validUntil ≤ b.buf.length) :
    Trans.InternalEscapeBytes b.buf (b.validUntil : Int) nl false = some (b.escapeToEnd nl).buf :=
  internalEscapeBytes_translated b.buf b.validUntil nl false h

end Redact
