import RedactVerif.Generated.Trans
import RedactVerif.Proofs.Tokens
import RedactVerif.Proofs.Canon
/-
The tie for `internal/markers/markers.go` and `rfmt.EscapeBytes` (helpers.go) by translation. The functions are
one-liners around two regular expressions; `Generated/Trans.lean` holds them as the translator reads them off /repo on
every run, the regexp calls rendered as `goReplaceMarkers` / `goReplaceEnvelopes` (Model/GoPrelude.lean: leftmost
non-overlapping replacement on the token reading; the regexps' source texts are regenerated facts). Here they are proved
to be the model's `stripMarkers` / `redact` / `escapeMarkers` / `escapeBytes`, for every input: the functions C07 and C10
are stated about. A rewrite of one of them (a hand-written scanner, `bytes.Map`, a fast path) leaves the translated
subset or changes the term, and the equality has to be proved again.
-/
namespace Redact

theorem replMarkers_nil (t : List Tok) : replMarkersT [] t = untok (stripT t) := by
  induction t with
  | nil => rfl
  | cons x r ih => cases x <;> simp [replMarkersT, stripT, ih, Tok.bytes]

theorem replMarkers_q (t : List Tok) : replMarkersT [0x3F] t = untok (escT t) := by
  induction t with
  | nil => rfl
  | cons x r ih => cases x <;> simp [replMarkersT, escT, ih, Tok.bytes]

-- the replacement text `[0xE2, 0x80, 0xB9, 0xC3, 0x97, 0xE2, 0x80, 0xBA]` is `‹×›`
theorem replEnv_redacted (o : Option (List Tok)) (t : List Tok) :
    replEnvAux [0xE2, 0x80, 0xB9, 0xC3, 0x97, 0xE2, 0x80, 0xBA] o t = untok (redactAux o t) := by
  fun_induction redactAux o t
  case case4 t r hne ih => cases t <;> simp_all [replEnvAux, Tok.bytes, startB, endB]
  all_goals simp_all [replEnvAux, untok_append, Tok.bytes, crossT, startB, endB]

/-- `RedactableString.StripMarkers` and `RedactableBytes.StripMarkers` are the model's `stripMarkers`. -/
theorem ms_stripMarkers (s : List Byte) : Trans.MS_StripMarkers s = stripMarkers s := by
  simp [Trans.MS_StripMarkers, Id.run, goReplaceMarkers, replMarkers_nil, stripMarkers]; rfl
theorem mb_stripMarkers (s : List Byte) : Trans.MB_StripMarkers s = stripMarkers s := by
  simp [Trans.MB_StripMarkers, Id.run, goReplaceMarkers, replMarkers_nil, stripMarkers]; rfl

/-- `RedactableString.Redact` and `RedactableBytes.Redact` are the model's `redact`. -/
theorem ms_redact (s : List Byte) : Trans.MS_Redact s = redact s := by
  simp [Trans.MS_Redact, Id.run, goReplaceEnvelopes, replEnv_redacted, redact, redactT]; rfl
theorem mb_redact (s : List Byte) : Trans.MB_Redact s = redact s := by
  simp [Trans.MB_Redact, Id.run, goReplaceEnvelopes, replEnv_redacted, redact, redactT]; rfl

/-- `markers.EscapeMarkers` is the model's `escapeMarkers`. -/
theorem m_escapeMarkers (s : List Byte) : Trans.M_EscapeMarkers s = escapeMarkers s := by
  simp [Trans.M_EscapeMarkers, Id.run, goReplaceMarkers, replMarkers_q, escapeMarkers]; rfl

/-- The conversions are the identity on the bytes, and the string and byte-slice variants are the same functions. -/
theorem conversions_identity (s : List Byte) : Trans.MS_ToBytes s = s ∧ Trans.MB_ToString s = s := ⟨rfl, rfl⟩
theorem variants_agree (s : List Byte) :
    Trans.MS_StripMarkers s = Trans.MB_StripMarkers s ∧ Trans.MS_Redact s = Trans.MB_Redact s := ⟨rfl, rfl⟩

theorem marker_accessors : Trans.M_StartMarker = startB ∧ Trans.M_EndMarker = endB ∧
    Trans.M_RedactedMarker = startB ++ [0xC3, 0x97] ++ endB := ⟨rfl, rfl, rfl⟩

/-- **`rfmt.EscapeBytes` is the model's `escapeBytes`**, and the call of the scanner it makes is within the scanner's
domain (start offset 3 ≤ length): Props/C10.lean `escapeBytes_scanner_call`. -/
theorem escapeBytes_translated (s : List Byte) : Trans.EscapeBytes s = escapeBytes s := by
  simp [Trans.EscapeBytes, Id.run, goLen, goInternalEscapeBytes, escapeBytes, startB, endB]; rfl

/-! The public wrappers of `api.go` delegate, and nothing else. -/
theorem api_escapeMarkers (s : List Byte) : Trans.API_EscapeMarkers s = escapeMarkers s := by
  rw [← m_escapeMarkers]; rfl
theorem api_escapeBytes (s : List Byte) : Trans.API_EscapeBytes s = escapeBytes s := by
  rw [← escapeBytes_translated]; rfl
theorem api_marker_accessors : Trans.API_StartMarker = startB ∧ Trans.API_EndMarker = endB ∧
    Trans.API_RedactedMarker = startB ++ [0xC3, 0x97] ++ endB := ⟨rfl, rfl, rfl⟩

end Redact
