import RedactVerif.Props.TransPP
import RedactVerif.Props.L2
import RedactVerif.Proofs.U.Top
import RedactVerif.Props.FactsClassify
import RedactVerif.Props.C02
import RedactVerif.Props.FactsSkelPrinter
/-
C05 — exactly the unsafe arguments are enveloped; declared-safe data stays visible.

What is proved (for the whole modelled universe, every oracle, every fuel):
* the frame theorem: `printArg` / `printValue` / every user-method script return
  with the buffer mode and the override they were entered with, on every path
  including caught panics (`printArg_frame`, `printValue_frame`, `script_frame`) —
  the restorer pattern of helpers.go;
* the classification of leaf writes: the rendering of a basic value is written
  between a switch to unsafe mode and the switch back, unless a safe override
  (SafeValue, registered type, Safe(), SafePrinter safe call) is in force, in
  which case it is written in the ambient mode (`leaf_classified`);
* registered / SafeValue operands are printed under a safe override
  (`declared_safe_bracket`).

* the text outside envelopes does not depend on the arguments that are not
  declared safe (`sprintf_safe_text_independent`, `sprint_safe_text_independent`):
  for two runs as in C02 (renderings equal on declared-safe leaves, same shape
  elsewhere) `dropEnv` of the two outputs is the same byte string — nothing of
  an undeclared argument, not even its padding or quotes, is outside.

FULL STATEMENT (partly proved): `dropEnv (output) = plain rendering with the
unsafe leaves blanked`. The independence half is the theorem above; that the
common value is what fmt prints for the safe parts rests on the byte-exact
correspondence of the printer model (P-model) and the real-code oracles
(P-envelopes: leaf extents and sentinel positions).
-/
namespace Redact

theorem printArg_frame (env : Env) (he : EnvOk env) (n : Nat) (p : PP) (hp : Pre p) (v : Val) (hv : ValOk v)
    (verb : Nat) (q : PP) (h : printArg env n p v verb = .ok q) :
    Inv q.buf ∧ q.buf.mode = p.buf.mode ∧ q.override = p.override :=
  ((spec_all env he n).printArg p v verb hp hv).1 q h

theorem printValue_frame (env : Env) (he : EnvOk env) (n : Nat) (p : PP) (hp : Pre p) (v : Val) (hv : ValOk v)
    (verb d : Nat) (ro : Bool) (q : PP) (h : printValue env n p v verb d ro = .ok q) :
    Inv q.buf ∧ q.buf.mode = p.buf.mode ∧ q.override = p.override :=
  ((spec_all env he n).printValue p v verb d ro hp hv).1 q h

/-- A user method (SafeFormat, Format, error hook) that finishes or panics
leaves mode and override as it found them. -/
theorem script_frame (env : Env) (he : EnvOk env) (n : Nat) (p : PP) (hp : Pre p) (sc : Script) (hsc : ScriptOk sc) :
    match runScript env n p sc with
    | .ok q => q.buf.mode = p.buf.mode ∧ q.override = p.override
    | .raised q _ => q.buf.mode = p.buf.mode ∧ q.override = p.override
    | .abort _ => True := by
  have := (spec_all env he n).runScript p sc hp hsc
  cases h : runScript env n p sc with
  | ok q => rw [h] at this; exact ⟨this.2.1, this.2.2⟩
  | raised q pl => rw [h] at this; exact ⟨this.1.2.1, this.1.2.2⟩
  | abort r => trivial

/-- **Classification of leaf writes.** What `leafWrite1` (every `defer
p.startUnsafe().restore(); p.fmt.fmtX(v)` site of print.go) does to the buffer:
under no override or an unsafe override the rendering is written in unsafe mode
and the previous mode is restored; under a safe override it is written in the
ambient mode. -/
theorem leaf_classified (env : Env) (p q : PP) (id verb : Nat) (h : leafWrite1 env p id verb = .ok q) :
    ∃ bytes, q.override = p.override ∧
      q.buf = (if p.override ≠ .ovSafe then ((p.buf.setMode .unsafeEsc).write bytes).setMode p.buf.mode
               else (p.buf.write bytes).setMode p.buf.mode) := by
  unfold leafWrite1 at h
  split at h
  · cases h
  · split at h
    · cases h
    · rename_i bytes _
      simp only [bracket, PP.startUnsafe, Res.ok.injEq] at h
      subst h
      refine ⟨bytes, ?_⟩
      by_cases ho : p.override ≠ .ovSafe <;> simp [PP.restore, PP.w, ho]

/-- **The complete rendering of an unsafe leaf is inside envelopes**: what `leaf_classified` says a
leaf write does when no safe override is in force — switch to unsafe mode, write the rendering
(padding, sign, quotes, prefixes and all: they are part of `bytes`), switch back — leaves the buffer
closed and validated, and outside envelopes nothing but line feeds was added to what the output
would have been without the leaf (`finalize`). The hypothesis `hT`: the text before the leaf does
not end in a truncated character. -/
theorem unsafe_write_enveloped (b : Buffer) (hi : Inv b) (hm : b.mode ≠ .unsafeEsc)
    (hT : tailBad b.finalize.buf = false) (bytes : List Byte) :
    let b' := ((b.setMode .unsafeEsc).write bytes).setMode b.mode
    b'.validUntil = b'.buf.length ∧ b'.markerOpen = false ∧
      ∃ l, OnlyLFs l ∧ U.fT b' = U.fT b.finalize ++ l := by
  have ⟨e1, v1, _⟩ := setMode_buf b .unsafeEsc hi hm
  have h0 : BU (b.setMode .unsafeEsc) (b.setMode .unsafeEsc) :=
    BU.refl (inv_setMode _ _ hi) (setMode_mode _ _) (fun _ => e1 ▸ hT)
  -- the switch to unsafe mode validates the whole buffer, whose bytes are then those of `finalize`
  have e0 : sT (b.setMode .unsafeEsc) = U.fT b.finalize := by
    unfold sT U.fT; rw [pre_of_full v1, e1]
  exact e0 ▸ (U.BU_exit (BU_write h0 bytes) b.mode hm).2

/-- Registered safe types and SafeValues are printed under a safe override:
`printArg` of such a value is its body bracketed by `startSafeOverride`. -/
theorem declared_safe_bracket (env : Env) (n : Nat) (p : PP) (v : Val) (verb : Nat)
    (hw : ∀ w, v ≠ .safeW w ∧ v ≠ .unsafeW w) (hs : isSafeValue v = true) (hr : isRegistered v = false) :
    printArg env (n + 1) p v verb = bracket PP.startSafeOverride p fun q => printArgBody env n q v verb := by
  cases v with
  | safeW w => exact absurd rfl (hw w).1
  | unsafeW w => exact absurd rfl (hw w).2
  | _ => simp [printArg, hs, hr]

/-- What is visible outside envelopes after a print call. -/
def Res.safeText : Res → Option (List Byte)
  | .ok p => some (dropEnv p.buf.redactableBytes)
  | _ => none

theorem safeText_eq_of_RR {pub : Nat → Prop} {ov0 : Override} {r1 r2 : Res} (h : RR pub ov0 r1 r2) : r1.safeText = r2.safeText := by
  cases r1 <;> cases r2 <;> simp only [RR] at h <;> try (exact h.elim)
  · simp only [Res.safeText]
    rw [dropEnv_eq_of_brel _ _ h.1.b]
  all_goals rfl

/-- **C05, independence half.** The text outside envelopes is the same whatever the
arguments not declared safe render as (same shape). -/
theorem sprintf_safe_text_independent (pub : Nat → Prop) (env1 env2 : Env) (he : EnvRel pub env1 env2)
    (format : List Byte) (args : List Val) (hok : ListOk args) (hs : ∀ v ∈ args, SecV pub v) :
    (sprintf env1 format args).safeText = (sprintf env2 format args).safeText :=
  safeText_eq_of_RR ((rspec_all he defaultFuel).doPrintf .no _ _ format args (prel_newPP false) rfl hok hs)

theorem sprint_safe_text_independent (pub : Nat → Prop) (env1 env2 : Env) (he : EnvRel pub env1 env2)
    (args : List Val) (hok : ListOk args) (hs : ∀ v ∈ args, SecV pub v) :
    (sprint env1 args).safeText = (sprint env2 args).safeText :=
  safeText_eq_of_RR ((rspec_all he defaultFuel).doPrint .no _ _ args (prel_newPP false) rfl hok hs)

/-! Non-vacuity -/
example : Pre newPP := pre_newPP
example : isSafeValue (.leaf 0 .str ([0x6D, 0x61, 0x69, 0x6E, 0x2E, 0x53, 0x61, 0x66, 0x65, 0x53, 0x74, 0x72] /- "main.SafeStr" -/ : List UInt8) none true false) = true := rfl

end Redact
