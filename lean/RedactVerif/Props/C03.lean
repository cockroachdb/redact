import RedactVerif.Props.C01
import RedactVerif.Props.FactsConsts
import RedactVerif.Props.FactsSkelBuffer
import RedactVerif.Props.TransBuffer
import RedactVerif.Props.TransEscape
/-
C03 — no envelope spans a line break: each output line is redactable alone.

`WFL` (the conclusion of every C01 theorem: `buffer_wf`, `builder_wf`,
`adapter_wf`, `escapeBytes_wf`) already contains line safety: the scanner
rejects a line feed inside an envelope. This file derives the consequences
the property states: cutting a well-formed line-safe redactable at *any*
line feed gives two well-formed line-safe redactables, and `Redact` /
`StripMarkers` commute with the cut (hence, by induction on the number of
line feeds, with splitting into lines and re-joining).
-/
namespace Redact

/-- A line feed byte is a synchronisation point of tokenisation. -/
theorem tokenize_cut_lf (a c : List Byte) :
    tokenize (a ++ LF :: c) = tokenize a ++ .b LF :: tokenize c := by
  rw [tokenize_append_of_not_straddles a (LF :: c) (straddles_of_not_cont a (by decide) c),
    tokenize_plain_ne LF c (by decide)]

theorem wfl_cut (a c : List Tok) (h : WFL (a ++ .b LF :: c)) : WFL a ∧ WFL c := by
  unfold WFL at *
  rw [scan_append] at h
  cases ha : scan a with
  | none => simp [ha] at h
  | some o =>
    cases o with
    | true => simp [ha, scanFrom] at h
    | false => simp [ha, scanFrom] at h; exact ⟨rfl, h⟩

theorem wfl_join (a c : List Tok) (ha : WFL a) (hc : WFL c) : WFL (a ++ .b LF :: c) := by
  unfold WFL at *
  rw [scan_append, ha]; simpa [scanFrom, scan] using hc

theorem redactAux_append_closed (a b : List Tok) :
    (scanFrom false a = some false → redactAux none (a ++ b) = redactAux none a ++ redactAux none b) ∧
    (∀ acc, scanFrom true a = some false → redactAux (some acc) (a ++ b) = redactAux (some acc) a ++ redactAux none b) := by
  induction a with
  | nil => constructor <;> simp [scanFrom, redactAux]
  | cons t r ih =>
    constructor
    · intro h
      cases t with
      | s => simp only [scanFrom] at h; simp [redactAux, ih.2 [] h]
      | e => simp [scanFrom] at h
      | b x => simp only [scanFrom] at h; simp [redactAux, ih.1 h]
    · intro acc h
      cases t with
      | s => simp [scanFrom] at h
      | e => simp only [scanFrom] at h; simp [redactAux, ih.1 h]
      | b x =>
        simp only [scanFrom] at h
        split at h
        · simp at h
        · simp [redactAux, ih.2 _ h]

theorem redactT_cut (a c : List Tok) (h : WFL (a ++ .b LF :: c)) :
    redactT (a ++ .b LF :: c) = redactT a ++ .b LF :: redactT c := by
  have ⟨ha, _⟩ := wfl_cut a c h
  unfold redactT
  rw [(redactAux_append_closed a (.b LF :: c)).1 ha]
  simp [redactAux]

theorem stripT_cut (a c : List Tok) : stripT (a ++ .b LF :: c) = stripT a ++ .b LF :: stripT c := by
  rw [stripT_append]; simp [stripT]

/-- **C03, byte level.** Cut any library output (anything `WFL`) at any of its
line feeds: both parts are well-formed and line-safe on their own, and
redacting / stripping the parts and re-joining them with the line feed gives
the same bytes as redacting / stripping the whole. -/
theorem lines_cut (a c : List Byte) (h : WFL (tokenize (a ++ LF :: c))) :
    WFL (tokenize a) ∧ WFL (tokenize c) ∧
    redact (a ++ LF :: c) = redact a ++ LF :: redact c ∧
    stripMarkers (a ++ LF :: c) = stripMarkers a ++ LF :: stripMarkers c := by
  rw [tokenize_cut_lf] at h
  have ⟨ha, hc⟩ := wfl_cut _ _ h
  refine ⟨ha, hc, ?_, ?_⟩
  · simp only [redact, tokenize_cut_lf, redactT_cut _ _ h, untok_append, untok_cons, Tok.bytes]
    simp
  · simp only [stripMarkers, tokenize_cut_lf, stripT_cut, untok_append, untok_cons, Tok.bytes]
    simp

/-- Unsafe data with line feeds at any position never yields an envelope that
spans a line break: instance for the buffer (every op sequence). -/
theorem buffer_lines (ops : List Op) (h : RunOk Buffer.init ops) (a c : List Byte)
    (hcut : (Buffer.init.run ops).redactableBytes = a ++ LF :: c) :
    WFL (tokenize a) ∧ WFL (tokenize c) ∧
    redact (a ++ LF :: c) = redact a ++ LF :: redact c := by
  have hw := buffer_wf ops h
  rw [hcut] at hw
  have := lines_cut a c hw
  exact ⟨this.1, this.2.1, this.2.2.1⟩

/-! Non-vacuity: an unsafe payload with leading, consecutive and trailing line feeds. -/
example : (Buffer.init.run [.write [0x0A, 0x61, 0x0A, 0x0A, 0x62, 0x0A]]).redactableBytes
    = [0x0A] ++ startB ++ [0x61] ++ endB ++ [0x0A, 0x0A] ++ startB ++ [0x62] ++ endB ++ [0x0A] := by decide

end Redact
