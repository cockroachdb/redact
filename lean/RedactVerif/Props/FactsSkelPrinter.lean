import RedactVerif.Generated.Facts
/-
Regenerated facts: the decision structure of the printer functions the model mirrors — if-conditions, type and verb
switches with their cases, type assertions, deferred calls and returns of print.go and helpers.go (for the
restorers, `free`, `newPrinter`, `doPrint` and `HelperForErrorf` also every call and assignment).
Extracted from /repo on every run (extract/main.go) and compared here with what the model was
written against (frozen by tools/gen_expect.py after the correspondence had been run). A change
to any of these functions breaks the equality before any input is run: the check then reports the
violation, with a failing input if the harness finds one.
-/
namespace Redact

def expectSkelPrinter : List (String × List String) := [("pp.doPrint", ["if p.override != overrideUnsafe", "do p.buf.SetMode(b.SafeEscaped)", "fi", "set prevString := false", "set isString := arg != nil && reflect.TypeOf(arg).Kind() == reflect.String", "if argNum > 0 && !isString && !prevString", "do p.buf.writeByte(' ')", "fi", "do p.printArg(arg, 'v')", "set prevString = isString"]),
  ("pp.doPrintf", ["if p.override != overrideUnsafe", "fi", "if i > lasti", "fi", "if i >= end", "fi", "switch c", "case '#'", "case '0'", "case '+'", "case '-'", "case ' '", "case default", "if 'a' <= c && c <= 'z' && argNum < len(a)", "if c == 'v'", "fi", "fi", "end", "if i < end && format[i] == '*'", "if !p.fmt.widPresent", "fi", "if p.fmt.wid < 0", "fi", "else", "if afterIndex && p.fmt.widPresent", "fi", "fi", "if i+1 < end && format[i] == '.'", "if afterIndex", "fi", "if i < end && format[i] == '*'", "if p.fmt.prec < 0", "fi", "if !p.fmt.precPresent", "fi", "else", "if !p.fmt.precPresent", "fi", "fi", "fi", "if !afterIndex", "fi", "if i >= end", "fi", "if verb >= utf8.RuneSelf", "fi", "switch ", "case verb == '%'", "case !p.goodArgNum", "case argNum >= len(a)", "case verb == 'v'", "case default", "end", "if !p.reordered && argNum < len(a)", "if i > 0", "fi", "if arg == nil", "else", "fi", "fi"]),
  ("pp.printValue", ["if depth > 0 && value.IsValid()", "if p.handleSpecialValues(value, t, verb, depth)", "return", "fi", "if safeTypeRegistry[t]", "defer p.startSafeOverride().restore", "fi", "if value.CanInterface()", "assert i.SafeValue", "if ok", "defer p.startSafeOverride().restore", "fi", "if p.handleMethods(verb)", "return", "fi", "fi", "fi", "switch value.Kind()", "case reflect.Invalid", "if depth == 0", "else", "switch verb", "case 'v'", "case default", "end", "fi", "case reflect.Bool", "case reflect.Int,reflect.Int8,reflect.Int16,reflect.Int32,reflect.Int64", "case reflect.Uint,reflect.Uint8,reflect.Uint16,reflect.Uint32,reflect.Uint64,reflect.Uintptr", "case reflect.Float32", "case reflect.Float64", "case reflect.Complex64", "case reflect.Complex128", "case reflect.String", "case reflect.Map", "if p.fmt.sharpV", "if f.IsNil()", "return", "fi", "else", "fi", "if i > 0", "if p.fmt.sharpV", "else", "fi", "fi", "if p.fmt.sharpV", "else", "fi", "case reflect.Struct", "if p.fmt.sharpV", "fi", "if i > 0", "if p.fmt.sharpV", "else", "fi", "fi", "if p.fmt.plusV || p.fmt.sharpV", "if name != \"\"", "fi", "fi", "case reflect.Interface", "if !value.IsValid()", "if p.fmt.sharpV", "else", "fi", "else", "fi", "case reflect.Array,reflect.Slice", "switch verb", "case 's','q','x','X'", "if t.Elem().Kind() == reflect.Uint8", "if f.Kind() == reflect.Slice", "else", "if f.CanAddr()", "else", "fi", "fi", "return", "fi", "end", "if p.fmt.sharpV", "if f.Kind() == reflect.Slice && f.IsNil()", "return", "fi", "if i > 0", "fi", "else", "if i > 0", "fi", "fi", "case reflect.Ptr", "if depth == 0 && f.Pointer() != 0", "switch a.Kind()", "case reflect.Array,reflect.Slice,reflect.Struct,reflect.Map", "return", "end", "fi", "case reflect.Chan,reflect.Func,reflect.UnsafePointer", "case default", "end"]),
  ("pp.badVerb", ["switch ", "case p.arg != nil", "case p.value.IsValid()", "case default", "end"]),
  ("pp.fmtBool", ["switch verb", "case 't','v'", "defer p.startUnsafe().restore", "case default", "end"]),
  ("pp.fmt0x64", ["defer p.startUnsafe().restore"]),
  ("pp.fmtInteger", ["switch verb", "case 'v'", "if p.fmt.sharpV && !isSigned", "else", "defer p.startUnsafe().restore", "fi", "case 'd'", "defer p.startUnsafe().restore", "case 'b'", "defer p.startUnsafe().restore", "case 'o','O'", "defer p.startUnsafe().restore", "case 'x'", "defer p.startUnsafe().restore", "case 'X'", "defer p.startUnsafe().restore", "case 'c'", "defer p.startUnsafe().restore", "case 'q'", "defer p.startUnsafe().restore", "case 'U'", "defer p.startUnsafe().restore", "case default", "end"]),
  ("pp.fmtFloat", ["switch verb", "case 'v'", "defer p.startUnsafe().restore", "case 'b','g','G','x','X'", "defer p.startUnsafe().restore", "case 'f','e','E'", "defer p.startUnsafe().restore", "case 'F'", "defer p.startUnsafe().restore", "case default", "end"]),
  ("pp.fmtComplex", ["switch verb", "case 'v','b','g','G','x','X','f','F','e','E'", "case default", "end"]),
  ("pp.fmtString", ["switch verb", "case 'v'", "defer p.startUnsafe().restore", "if p.fmt.sharpV", "else", "fi", "case 's'", "defer p.startUnsafe().restore", "case 'x'", "defer p.startUnsafe().restore", "case 'X'", "defer p.startUnsafe().restore", "case 'q'", "defer p.startUnsafe().restore", "case default", "end"]),
  ("pp.fmtBytes", ["switch verb", "case 'v','d'", "if p.fmt.sharpV", "if v == nil", "return", "fi", "if i > 0", "fi", "else", "if i > 0", "fi", "fi", "case 's'", "defer p.startUnsafe().restore", "case 'x'", "defer p.startUnsafe().restore", "case 'X'", "defer p.startUnsafe().restore", "case 'q'", "defer p.startUnsafe().restore", "case default", "end"]),
  ("pp.fmtPointer", ["switch value.Kind()", "case reflect.Chan,reflect.Func,reflect.Map,reflect.Ptr,reflect.Slice,reflect.UnsafePointer", "case default", "return", "end", "switch verb", "case 'v'", "if p.fmt.sharpV", "if u == 0", "else", "fi", "else", "if u == 0", "defer p.startUnsafe().restore", "else", "fi", "fi", "case 'p'", "case 'b','o','d','x','X'", "case default", "end"]),
  ("pp.argNumber", ["if len(format) <= i || format[i] != '['", "return argNum,i,false", "fi", "if ok && 0 <= index && index < numArgs", "return index,i + wid,true", "fi", "return argNum,i + wid,ok"]),
  ("pp.free", ["if p.buf.Cap() > 64<<10", "return", "fi", "do p.buf.Reset()", "set p.arg = nil", "set p.value = reflect.Value{}", "set p.wrappedErr = nil", "do ppFree.Put(p)"]),
  ("newPrinter", ["set p := ppFree.Get().(*pp)", "set p.panicking = false", "set p.erroring = false", "set p.wrapErrs = false", "do p.fmt.init(&p.buf)", "return p"]),
  ("pp.handleSpecialValues", ["switch t", "case safeWrapperType", "defer p.startSafeOverride().restore", "case unsafeWrapperType", "defer p.startUnsafeOverride().restore", "case redactableStringType", "defer p.startPreRedactable().restore", "case redactableBytesType", "defer p.startPreRedactable().restore", "end", "return handled"]),
  ("pp.startUnsafe", ["set prevMode := p.buf.GetMode()", "if p.override != overrideSafe", "do p.buf.SetMode(b.UnsafeEscaped)", "fi", "return restorer{p, prevMode, p.override}"]),
  ("pp.startPreRedactable", ["set prevMode := p.buf.GetMode()", "if p.override != overrideUnsafe", "do p.buf.SetMode(b.PreRedactable)", "fi", "return restorer{p, prevMode, p.override}"]),
  ("pp.startSafeOverride", ["set prevMode := p.buf.GetMode()", "set prevOverride := p.override", "if p.override == noOverride", "do p.buf.SetMode(b.SafeEscaped)", "set p.override = overrideSafe", "fi", "return restorer{p, prevMode, prevOverride}"]),
  ("pp.startUnsafeOverride", ["set prevMode := p.buf.GetMode()", "set prevOverride := p.override", "if p.override == noOverride", "do p.buf.SetMode(b.UnsafeEscaped)", "set p.override = overrideUnsafe", "fi", "return restorer{p, prevMode, prevOverride}"]),
  ("restorer.restore", ["do r.p.buf.SetMode(r.prevMode)", "set r.p.override = r.prevOverride"]),
  ("HelperForErrorf", ["set p := newPrinter()", "set p.wrapErrs = true", "do p.doPrintf(format, args)", "set e := p.wrappedErr", "set s := p.buf.TakeRedactableString()", "do p.free()", "return s,e"])]

theorem gen_skel_printer : Gen.skelPrinter = expectSkelPrinter := rfl

end Redact
