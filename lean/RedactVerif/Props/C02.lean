import RedactVerif.Proofs.NI
import RedactVerif.Proofs.PrinterNI
import RedactVerif.Props.C01
import RedactVerif.Props.FactsClassify
import RedactVerif.Props.FactsSkelPrinter
/-
C02 — redacted output is independent of unsafe data (non-interference), and
C05's counting half as a corollary. Buffer level: for every pair of operation
sequences on `internal/buffer` (and through it `builder.StringBuilder`; the
printer's SafeWriter adapter is covered at the printer level, by
`script_noninterference`) that agree on everything public — the operations,
the mode switches, every safe and every pre-redactable payload — and whose
unsafe payloads merely have the same shape (same line-feed structure, same
emptiness of the segments between line feeds), `Redact()` of the two results is
byte-for-byte the same.
-/
namespace Redact

/-- Relation between the operations of two runs, in mode `m`: everything public is equal;
unsafe payloads may differ but have the same shape. -/
def OpRel (m : Mode) : Op → Op → Prop
  | .write p1, .write p2 => PendRel m p1 p2
  | .writeByte x1, .writeByte x2 => if m = .unsafeEsc then (x1 = LF ↔ x2 = LF) else x1 = x2
  | .writeRune r1, .writeRune r2 => if m = .unsafeEsc then (r1 = 10 ↔ r2 = 10) else r1 = r2
  | .setMode m1, .setMode m2 => m1 = m2
  | .reset, .reset => True
  | .take, .take => True
  | .grow _, .grow _ => True
  | .accLen, .accLen => True
  | .accString, .accString => True
  | .accRedactable, .accRedactable => True
  | .accMode, .accMode => True
  | _, _ => False

theorem step_rel (b1 b2 : Buffer) (o1 o2 : Op) (h : BRel b1 b2) (hr : OpRel b1.mode o1 o2)
    (k1 : OpOk b1 o1) (k2 : OpOk b2 o2) : BRel (b1.step o1).1 (b2.step o2).1 := by
  unfold OpRel at hr
  split at hr <;> dsimp only [Buffer.step]
  next p1 p2 => exact write_rel b1 b2 p1 p2 h hr k1 (fun hh => k2 (h.mode ▸ hh))
  next x1 x2 => exact writeByte_rel b1 b2 x1 x2 h hr k1 (fun hh => k2 (h.mode ▸ hh))
  next r1 r2 => exact writeRune_rel b1 b2 r1 r2 h hr k1 (fun hh => k2 (h.mode ▸ hh))
  next m1 m2 => exact hr ▸ setMode_rel b1 b2 m1 h
  · exact brel_init
  · unfold Buffer.take
    simp only [(finalize_full b1 h.i1).2.1, (finalize_full b2 h.i2).2.1]
    exact brel_init
  · exact h
  · exact h
  · exact h
  · exact h
  · exact h
  · exact hr.elim

def RunRel : Buffer → Buffer → List Op → List Op → Prop
  | _, _, [], [] => True
  | b1, b2, o1 :: r1, o2 :: r2 => OpRel b1.mode o1 o2 ∧ RunRel (b1.step o1).1 (b2.step o2).1 r1 r2
  | _, _, _, _ => False

theorem run_rel (b1 b2 : Buffer) (ops1 ops2 : List Op) (h : BRel b1 b2) (hr : RunRel b1 b2 ops1 ops2)
    (k1 : RunOk b1 ops1) (k2 : RunOk b2 ops2) : BRel (b1.run ops1) (b2.run ops2) := by
  induction ops1 generalizing b1 b2 ops2 with
  | nil =>
    cases ops2 with
    | nil => exact h
    | cons _ _ => exact hr.elim
  | cons o1 r1 ih =>
    cases ops2 with
    | nil => exact hr.elim
    | cons o2 r2 =>
      exact ih _ _ r2 (step_rel b1 b2 o1 o2 h hr.1 k1.1 k2.1) hr.2 k1.2 k2.2

theorem redact_eq_of_brel (b1 b2 : Buffer) (h : BRel b1 b2) :
    redact b1.redactableBytes = redact b2.redactableBytes := by
  have ⟨f1, _, _⟩ := finalize_full b1 h.i1
  have ⟨f2, _, _⟩ := finalize_full b2 h.i2
  unfold redact Buffer.redactableBytes
  rw [redactT_eq_of_abs _ _ f1.sc f2.sc (finalize_rel b1 b2 h)]


/-- The public events of two related runs coincide (the skeleton a low observer sees). -/
theorem buffer_events_eq (ops1 ops2 : List Op) (hr : RunRel Buffer.init Buffer.init ops1 ops2)
    (k1 : RunOk Buffer.init ops1) (k2 : RunOk Buffer.init ops2) :
    evB (Buffer.init.run ops1).redactableBytes = evB (Buffer.init.run ops2).redactableBytes :=
  finalize_rel _ _ (run_rel _ _ _ _ brel_init hr k1 k2)

/-- **C02, buffer level.** Two operation sequences that agree on everything public and
whose unsafe payloads have the same shape give byte-identical `Redact()` results. -/
theorem buffer_noninterference (ops1 ops2 : List Op) (hr : RunRel Buffer.init Buffer.init ops1 ops2)
    (k1 : RunOk Buffer.init ops1) (k2 : RunOk Buffer.init ops2) :
    redact (Buffer.init.run ops1).redactableBytes = redact (Buffer.init.run ops2).redactableBytes :=
  redact_eq_of_brel _ _ (run_rel _ _ _ _ brel_init hr k1 k2)

/-- Public parts equal, unsafe parts of the same shape, inner print results with the same events. -/
def WOpRel : WOp → WOp → Prop
  | .safeString p1, .safeString p2 => p1 = p2
  | .safeByte x1, .safeByte x2 => x1 = x2
  | .safeRune r1, .safeRune r2 => r1 = r2
  | .safeNum p1, .safeNum p2 => p1 = p2
  | .unsafeString p1, .unsafeString p2 => canonB p1 = canonB p2
  | .unsafeByte x1, .unsafeByte x2 => (x1 = LF ↔ x2 = LF)
  | .unsafeRune r1, .unsafeRune r2 => (r1 = 10 ↔ r2 = 10)
  | .print r1, .print r2 => Obtainable r1 ∧ Obtainable r2 ∧ evB r1 = evB r2
  | _, _ => False

theorem run_two (b : Buffer) (o1 o2 : Op) : b.run [o1, o2] = ((b.step o1).1.step o2).1 := rfl

theorem builderOps_rel (b1 b2 : Buffer) (w1 w2 : WOp) (h : BRel b1 b2) (hw : WOpRel w1 w2) :
    BRel (b1.run (builderOps w1)) (b2.run (builderOps w2)) := by
  have sm (m : Mode) : BRel (b1.setMode m) (b2.setMode m) := setMode_rel b1 b2 m h
  have nr {m : Mode} (hm : m ≠ .raw) {p : Prop} (hh : (b1.setMode m).mode = .raw) : p :=
    absurd (setMode_mode b1 m ▸ hh) hm
  unfold WOpRel at hw
  split at hw <;> dsimp only [builderOps, run_two, Buffer.step]
  · exact hw ▸ write_rel_same _ _ _ (sm _) (nr (by decide))
  · exact hw ▸ writeByte_rel_same _ _ _ (sm _) (nr (by decide))
  · exact hw ▸ writeRune_rel_same _ _ _ (sm _) (nr (by decide))
  · exact hw ▸ write_rel_same _ _ _ (sm _) (nr (by decide))
  · exact write_rel _ _ _ _ (sm _) ((pendRel_unsafe (setMode_mode _ _)).2 hw) (nr (by decide)) (nr (by decide))
  · exact writeByte_rel _ _ _ _ (sm _) (by rw [setMode_mode, if_pos rfl]; exact hw) (nr (by decide)) (nr (by decide))
  · exact writeRune_rel _ _ _ _ (sm _) (by rw [setMode_mode, if_pos rfl]; exact hw) (nr (by decide)) (nr (by decide))
  · exact write_rel _ _ _ _ (sm _) ((pendRel_raw (setMode_mode _ _)).2 hw.2.2) (fun _ => hw.1) (fun _ => hw.2.1)
  · exact hw.elim

def WRunRel : List WOp → List WOp → Prop
  | [], [] => True
  | w1 :: r1, w2 :: r2 => WOpRel w1 w2 ∧ WRunRel r1 r2
  | _, _ => False

theorem builderRun_rel (b1 b2 : Buffer) (ws1 ws2 : List WOp) (h : BRel b1 b2)
    (hw : WRunRel ws1 ws2) : BRel (builderRun b1 ws1) (builderRun b2 ws2) := by
  induction ws1 generalizing b1 b2 ws2 with
  | nil =>
    cases ws2 with
    | nil => exact h
    | cons _ _ => exact hw.elim
  | cons w1 r1 ih =>
    cases ws2 with
    | nil => exact hw.elim
    | cons w2 r2 =>
      rw [builderRun_cons, builderRun_cons]
      exact ih _ _ r2 (builderOps_rel b1 b2 w1 w2 h hw.1) hw.2

/-- **C02, StringBuilder.** Two call sequences with equal safe payloads, unsafe payloads of
the same shape and inner print results with the same public events redact identically. -/
theorem builder_noninterference (ws1 ws2 : List WOp) (hw : WRunRel ws1 ws2) :
    redact (builderRun Buffer.init ws1).redactableBytes = redact (builderRun Buffer.init ws2).redactableBytes :=
  redact_eq_of_brel _ _ (builderRun_rel _ _ _ _ brel_init hw)

/-- Outputs with the same events can stand for each other as inner print results:
the relation composes through `Print`/`Printf` on a StringBuilder (histories of prints). -/
theorem builder_events_eq (ws1 ws2 : List WOp) (hw : WRunRel ws1 ws2) :
    evB (builderRun Buffer.init ws1).redactableBytes = evB (builderRun Buffer.init ws2).redactableBytes :=
  finalize_rel _ _ (builderRun_rel _ _ _ _ brel_init hw)

/-! Non-vacuity: two concrete runs with different secrets (`al`/`bobby`, `p‹\nx`/`?\n››`). -/

def exOps (secret1 secret2 : List Byte) : List Op :=
  [.write secret1, .setMode .safeEsc, .write [0x75, 0x3D], .setMode .unsafeEsc, .write secret2, .writeByte 0x21]

example : redact (Buffer.init.run (exOps [0x61, 0x6C] ([0x70] ++ startB ++ [0x0A, 0x78]))).redactableBytes
    = redact (Buffer.init.run (exOps [0x62, 0x6F, 0x62, 0x62, 0x79] ([0x3F, 0x0A] ++ endB ++ endB))).redactableBytes := by
  apply buffer_noninterference
  · simp [exOps, RunRel, OpRel, PendRel, Buffer.step, write_mode, setMode_mode, Buffer.init, canonB, cF, LF, startB, endB]
  · simp [exOps, RunOk, OpOk, Buffer.step, write_mode, setMode_mode, Buffer.init]
  · simp [exOps, RunOk, OpOk, Buffer.step, write_mode, setMode_mode, Buffer.init]

example : redact (Buffer.init.run (exOps [0x61, 0x6C] ([0x70] ++ startB ++ [0x0A, 0x78]))).redactableBytes
    = startB ++ crossB ++ endB ++ [0x75, 0x3D] ++ startB ++ crossB ++ endB ++ [0x0A] ++ startB ++ crossB ++ endB := by decide


/-- What a low observer sees of a print call: how it ended and, on success, `Redact()` of the result. -/
def Res.redacted : Res → Option (Option (List Byte))
  | .ok p => some (some (redact p.buf.redactableBytes))
  | .panic _ _ => some none
  | .fuel => none
  | .unsupported => none

theorem redacted_eq_of_RR {pub : Nat → Prop} {ov0 : Override} {r1 r2 : Res} (h : RR pub ov0 r1 r2) : r1.redacted = r2.redacted := by
  cases r1 <;> cases r2 <;> simp only [RR] at h <;> try (exact h.elim)
  · simp only [Res.redacted]
    rw [redact_eq_of_brel _ _ h.1.b]
  all_goals rfl

theorem prel_newPP (we : Bool) : PRel { newPP with wrapErrs := we } { newPP with wrapErrs := we } :=
  ⟨brel_init, by show Buffer.init.mode ≠ .raw; decide, rfl, rfl, rfl, rfl, rfl, rfl, rfl, rfl⟩

/-- The security hypothesis on an argument list: what is declared safe is public (`SecV`),
and embedded redactables are finished redactables (`ValOk`). -/
def ArgsOk (pub : Nat → Prop) (args : List Val) : Prop := ListOk args ∧ ∀ v ∈ args, SecV pub v

/-- **C02, printer level.** For every format (every verb, flag, width, precision, `*` and
argument-index form, well-formed or not) and every argument list of the modelled universe,
two runs whose leaf renderings agree on every leaf declared safe and have the same shape
(same emptiness, same line-feed structure) on every other leaf end the same way (both return,
or both panic), and `Redact()` of the two results is byte-for-byte identical. -/
theorem sprintf_noninterference (pub : Nat → Prop) (env1 env2 : Env) (he : EnvRel pub env1 env2)
    (format : List Byte) (args : List Val) (ha : ArgsOk pub args) :
    (sprintf env1 format args).redacted = (sprintf env2 format args).redacted :=
  redacted_eq_of_RR ((rspec_all he defaultFuel).doPrintf .no _ _ format args (prel_newPP false) rfl ha.1 ha.2)

theorem sprint_noninterference (pub : Nat → Prop) (env1 env2 : Env) (he : EnvRel pub env1 env2)
    (args : List Val) (ha : ArgsOk pub args) :
    (sprint env1 args).redacted = (sprint env2 args).redacted :=
  redacted_eq_of_RR ((rspec_all he defaultFuel).doPrint .no _ _ args (prel_newPP false) rfl ha.1 ha.2)

theorem helperForErrorf_noninterference (pub : Nat → Prop) (env1 env2 : Env) (he : EnvRel pub env1 env2)
    (format : List Byte) (args : List Val) (ha : ArgsOk pub args) :
    (helperForErrorf env1 format args).redacted = (helperForErrorf env2 format args).redacted :=
  redacted_eq_of_RR ((rspec_all he defaultFuel).doPrintf .no _ _ format args (prel_newPP true) rfl ha.1 ha.2)

/-- The same for any user method script run on a SafePrinter (`SafeFormat`, `Format`, error hook). -/
theorem script_noninterference (pub : Nat → Prop) (env1 env2 : Env) (he : EnvRel pub env1 env2)
    (sc : Script) (hok : ScriptOk sc) (hs : SecS pub sc) (fuel : Nat) :
    SR pub .no (runScript env1 fuel newPP sc) (runScript env2 fuel newPP sc) :=
  (rspec_all he fuel).runScript .no _ _ sc (prel_newPP false) rfl hok hs

/-! Non-vacuity: the hypotheses are met by two oracles that differ on an unsafe leaf. -/

def exPub : Nat → Prop := fun id => id = 1
def exEnv (secret : List Byte) : Env :=
  { render := fun id _ => if id = 0 then some secret else if id = 1 then some [0x37] else none, hook := none }
def exArgs : List Val :=
  [.leaf 0 .str ([0x73, 0x74, 0x72, 0x69, 0x6E, 0x67] /- "string" -/ : List UInt8) none false false,
   .safeW (.leaf 1 .sint ([0x69, 0x6E, 0x74] /- "int" -/ : List UInt8) (some 7) false false)]

example : EnvRel exPub (exEnv [0x61, 0x62]) (exEnv [0x7A]) ∧ ArgsOk exPub exArgs ∧
    (exEnv [0x61, 0x62]).render 0 [] ≠ (exEnv [0x7A]).render 0 [] := by
  refine ⟨⟨rfl, ?_, ?_, ?_⟩, ⟨?_, ?_⟩, by simp [exEnv]⟩
  · intro id d
    simp only [exEnv]
    by_cases h0 : id = 0
    · simp [h0, canonB, cF, LF, exPub]
    · by_cases h1 : id = 1
      · simp [h1, exPub]
      · simp [h0, h1]
  · intro f hf; simp [exEnv] at hf
  · intro h hh; simp [exEnv] at hh
  · intro v hv; simp [exArgs] at hv; rcases hv with rfl | rfl <;> simp [ValOk]
  · intro v hv; simp [exArgs] at hv; rcases hv with rfl | rfl <;> simp [SecV, AllPubV, exPub]

/-- Known finding D12 as a theorem about the model: left padding in front of an unsafe value that
starts with a line feed is an envelope of its own. `%6s` of the short value `"\nab"` renders as
three spaces, a line feed, `ab`; of the long value `"\nabcdef"` as itself. Same line-feed positions
in the values, different redacted outputs — the renderings are not shape-equal (the first has a
non-empty segment before the line feed), which is the hypothesis the two-run theorems need. -/
theorem pad_before_leading_lf_shows :
    redact (Buffer.init.run [.write [0x20, 0x20, 0x20, 0x0A, 0x61, 0x62]]).redactableBytes
      = startB ++ crossB ++ endB ++ [0x0A] ++ startB ++ crossB ++ endB ∧
    redact (Buffer.init.run [.write [0x0A, 0x61, 0x62, 0x63, 0x64, 0x65, 0x66]]).redactableBytes
      = [0x0A] ++ startB ++ crossB ++ endB ∧
    canonB [0x20, 0x20, 0x20, 0x0A, 0x61, 0x62] ≠ canonB [0x0A, 0x61, 0x62, 0x63, 0x64, 0x65, 0x66] := by
  refine ⟨by decide, by decide, by decide⟩

end Redact
