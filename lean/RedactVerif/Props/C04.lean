import RedactVerif.Proofs.Erase
import RedactVerif.Proofs.EraseU
import RedactVerif.Proofs.S.Top
import RedactVerif.Props.FactsClassify
/-
C04 — with markers stripped, the output is what the printer writes when nothing is classified.

The fork adds to fmt's printer a classification machinery: buffer modes, overrides, the brackets
`defer p.startX().restore()`, envelopes, lazy escaping. The theorems here say that this machinery
does not change the *text*: for every format and every operand list, with markers stripped the output of
`Sprintf`/`Sprint`/`HelperForErrorf` equals — markers in the data replaced by `?` — the bytes the
same printer functions write when started under a safe override, a state in which every bracket is
the identity and every write is appended verbatim to the pending bytes (`plain_finish`):
the fmt skeleton of the model with the classification erased. The two runs end the same way
(both return, both panic with the same payload, or both fail to evaluate), so a call panics exactly
when the unclassified run does.

What remains outside Lean: that the unclassified run of the model is Go's `fmt` — leaf renderings
are the oracle (Go's fmt itself in the correspondence), and the structure around them is compared
with Go's fmt on every run by the stream `P-plain` (model's unclassified text vs `fmt.Sprintf`)
and by the real-code oracle `P-fidelity`.

Hypotheses: those of `Proofs/Clean.lean` (format valid UTF-8; type names ASCII; renderings and
payloads end in complete characters — C04 quantifies over valid UTF-8), no `Unsafe(…)` wrapper
and no RedactableString/Bytes among the operands (excluded by C04: redact-specific rendering).
SafeFormatter / SafeMessager values and an error hook are *allowed*: dispatch is the same in both
runs, so the statement covers them too.
-/
namespace Redact
namespace C04

theorem pre_plainPP : S.Pre plainPP := ⟨inv_setMode Buffer.init .safeEsc inv_init, setMode_mode _ _, rfl⟩

theorem plainPP_pre_nil : plainPP.buf.pre = [] := by decide

theorem erU_entry : ErU.ER newPP plainPP := by
  have b0 : ErU.BR Buffer.init Buffer.init := by
    obtain ⟨a, d, k⟩ := clean_init
    exact ⟨a, d, d, k, k⟩
  have b1 := b0.setMode .unsafeEsc .safeEsc
  rw [setMode_same Buffer.init .unsafeEsc rfl] at b1
  exact ⟨rfl, rfl, rfl, rfl, rfl, rfl, rfl, by decide, by decide, b1⟩

theorem er_entry : Er.ER newPP plainPP := .ofU erU_entry (by decide) (by decide)

theorem er_entry_errorf : Er.ER { newPP with wrapErrs := true } { plainPP with wrapErrs := true } :=
  { er_entry with wrapErrs := rfl }

theorem strip_eq_of_BR {b b' : Buffer} (h : ErU.BR b b') :
    stripMarkers b.redactableBytes = stripMarkers b'.redactableBytes := by
  obtain ⟨a, d, d', k, k'⟩ := h
  unfold stripMarkers Buffer.redactableBytes
  rw [(finalize_K _ _ _ k).2.1, (finalize_K _ _ _ k').2.1]

/-- Finishing a buffer in safe mode: the validated part stays, the markers among the pending bytes
become `?`, and a truncated character at the end gets its `?`. -/
theorem finish_safe {b : Buffer} (hi : Inv b) (hm : b.mode = .safeEsc) :
    b.markerOpen = false ∧
      tokenize b.redactableBytes =
        tokenize b.pre ++ escT (tokenize b.suf) ++ (if tailBad b.buf then [.b 0x3F] else []) := by
  have oo : b.markerOpen = false := by
    cases ho : b.markerOpen with
    | false => rfl
    | true => have := hi.openMode ho; rw [hm] at this; cases this
  refine ⟨oo, ?_⟩
  unfold Buffer.redactableBytes
  rw [finalize_esc_closed _ (by rw [hm]; decide) oo, hm]
  show tokenize (escapeBytesAt b.buf b.validUntil false false) = _
  rw [(escapeBytesAt_spec b.buf b.validUntil false hi.good).1, escTok_false_eq]
  split <;> simp [Buffer.pre, Buffer.suf]

/-- **In the unclassified run every write is appended verbatim**: the buffer stays in safe mode,
nothing is validated (no envelope, no escaping yet), so `buf` is the concatenation of everything
written; finishing it replaces the markers in that text by `?` and does nothing else. -/
theorem plain_finish {q' : PP} (hbs : S.BS plainPP.buf q'.buf) (hclean : Clean q'.buf) :
    q'.buf.validUntil = 0 ∧ q'.buf.mode = .safeEsc ∧ q'.buf.markerOpen = false ∧
      tokenize q'.buf.redactableBytes = escT (tokenize q'.buf.buf) ∧
      q'.buf.redactableBytes = escapeMarkers q'.buf.buf := by
  have hpre0 : q'.buf.pre = [] := by rw [hbs.pre]; exact plainPP_pre_nil
  have hvu : q'.buf.validUntil = 0 := by
    have hl := hbs.inv.le
    have := congrArg List.length hpre0
    simp only [Buffer.pre, List.length_take, List.length_nil] at this
    omega
  have hsuf : q'.buf.suf = q'.buf.buf := by rw [buf_eq_pre_suf q'.buf, hpre0]; rfl
  obtain ⟨a, d, k⟩ := hclean
  have ⟨oo, hh⟩ := finish_safe hbs.inv hbs.mode
  rw [hpre0, hsuf, k.tail] at hh
  simp only [tokenize_nil, List.nil_append, Bool.false_eq_true, if_false, List.append_nil] at hh
  refine ⟨hvu, hbs.mode, oo, hh, ?_⟩
  unfold escapeMarkers
  rw [← hh, untok_tokenize]

/-- How two results compare: both return and the classified output, stripped, is the unclassified
text with its markers replaced by `?`; or both panic with the same payload; or neither evaluates. -/
def SameText : Res → Res → Prop
  | .ok q, .ok q' => stripMarkers q.buf.redactableBytes = escapeMarkers q'.buf.buf
  | .panic _ pl, .panic _ pl' => pl = pl'
  | .fuel, .fuel => True
  | .unsupported, .unsupported => True
  | _, _ => False

theorem sameText_ok {q q' : PP} (h : ErU.BR q.buf q'.buf) (hbs : S.BS plainPP.buf q'.buf) :
    stripMarkers q.buf.redactableBytes = escapeMarkers q'.buf.buf := by
  obtain ⟨a, d, d', k, k'⟩ := h
  rw [strip_eq_of_BR ⟨a, d, d', k, k'⟩]
  unfold stripMarkers escapeMarkers
  rw [(plain_finish hbs ⟨a, d', k'⟩).2.2.2.1, stripT_escT]

theorem sameText_of_rel {r r' : Res} (h : Er.RelR r r') (hS : S.GR plainPP r') : SameText r r' := by
  cases h with
  | ok hq => exact sameText_ok hq.br (hS.1 _ rfl).1
  | panic _ _ => rfl
  | fuel => trivial
  | unsupported => trivial

theorem sameText_of_relU {r r' : Res} (h : ErU.RelR r r') (hS : S.GR plainPP r') : SameText r r' := by
  cases h with
  | ok hq => exact sameText_ok hq.br (hS.1 _ rfl).1
  | panic _ _ => rfl
  | fuel => trivial
  | unsupported => trivial

/-- **C04 for Sprintf / Fprintf.** -/
theorem sprintf_strip_eq_plain (env : Env) (he : Er.EnvE env) (hs : S.EnvOk env) (f : List Byte) (hf : FmtCl f)
    (args : List Val) (ha : Er.ListE args) (ho : S.ListOk args) :
    SameText (sprintf env f args) (plainSprintf env f args) :=
  sameText_of_rel ((Er.espec_all env he defaultFuel).doPrintf _ _ f args er_entry hf ha)
    ((S.spec_all env hs defaultFuel).doPrintf _ f args pre_plainPP ho)

/-- **C04 for Sprint / Fprint.** -/
theorem sprint_strip_eq_plain (env : Env) (he : Er.EnvE env) (hs : S.EnvOk env)
    (args : List Val) (ha : Er.ListE args) (ho : S.ListOk args) :
    SameText (sprint env args) (plainSprint env args) :=
  sameText_of_rel ((Er.espec_all env he defaultFuel).doPrint _ _ args er_entry ha)
    ((S.spec_all env hs defaultFuel).doPrint _ args pre_plainPP ho)

/-- **The text of HelperForErrorf** (C15's "otherwise identical" clause read against the unclassified run). -/
theorem helperForErrorf_strip_eq_plain (env : Env) (he : Er.EnvE env) (hs : S.EnvOk env) (f : List Byte) (hf : FmtCl f)
    (args : List Val) (ha : Er.ListE args) (ho : S.ListOk args) :
    SameText (helperForErrorf env f args) (plainErrorf env f args) :=
  sameText_of_rel ((Er.espec_all env he defaultFuel).doPrintf _ _ f args er_entry_errorf hf ha)
    (S.GR_congr rfl rfl ((S.spec_all env hs defaultFuel).doPrintf _ f args (S.Pre_congr rfl pre_plainPP) ho))

/-- **A print call panics exactly when the unclassified run does**, and with the same payload. -/
theorem sprintf_panics_iff_plain (env : Env) (he : Er.EnvE env) (hs : S.EnvOk env) (f : List Byte) (hf : FmtCl f)
    (args : List Val) (ha : Er.ListE args) (ho : S.ListOk args) (pl : Val) :
    (∃ b, sprintf env f args = .panic b pl) ↔ (∃ b', plainSprintf env f args = .panic b' pl) := by
  have h := sprintf_strip_eq_plain env he hs f hf args ha ho
  generalize sprintf env f args = r at h
  generalize plainSprintf env f args = r' at h
  cases r <;> cases r' <;> simp only [SameText] at h <;> simp_all

/-- **The stripped text does not depend on the classification state at all**: any two printers
that agree on flags and bookkeeping, neither under an unsafe override, whose buffers read the same
with markers stripped, produce outputs that read the same with markers stripped — whatever the
override in force, the mode, the envelopes already in the buffers. -/
theorem strip_independent_of_classification (env : Env) (he : Er.EnvE env) (n : Nat) (p p' : PP) (h : Er.ER p p')
    (f : List Byte) (hf : FmtCl f) (args : List Val) (ha : Er.ListE args) (q q' : PP)
    (h1 : doPrintf env n p f args = .ok q) (h2 : doPrintf env n p' f args = .ok q') :
    stripMarkers q.buf.redactableBytes = stripMarkers q'.buf.redactableBytes := by
  have hr := (Er.espec_all env he n).doPrintf p p' f args h hf ha
  rw [h1, h2] at hr
  cases hr with
  | ok hq => exact strip_eq_of_BR hq.br

/-! ### With `Safe(…)` / `Unsafe(…)` wrappers among the operands (fmt-only values)

`Proofs/EraseU.lean` repeats the induction with a relation that does not constrain the overrides at
all — one run may be under an unsafe override while the other is not — for operands without
redact-specific dispatch (no SafeFormatter, no SafeMessager, no error hook, no redactable). Hence the
same statements with wrappers anywhere in the operands; with `Props/C06.lean` this is C06's "in both
cases the characters are those fmt prints for x". -/

/-- **C04 / C06 with wrappers, Sprintf**: whatever `Safe(…)`/`Unsafe(…)` wrappers the operands carry, at
any depth, the stripped output is the unclassified text with its markers replaced by `?`. -/
theorem sprintf_wrapped_strip_eq_plain (env : Env) (he : ErU.EnvE env) (hs : S.EnvOk env) (f : List Byte) (hf : FmtCl f)
    (args : List Val) (ha : ErU.ListE args) (ho : S.ListOk args) :
    SameText (sprintf env f args) (plainSprintf env f args) :=
  sameText_of_relU ((ErU.espec_all env he defaultFuel).doPrintf _ _ f args erU_entry hf ha)
    ((S.spec_all env hs defaultFuel).doPrintf _ f args pre_plainPP ho)

/-- **C04 / C06 with wrappers, Sprint.** -/
theorem sprint_wrapped_strip_eq_plain (env : Env) (he : ErU.EnvE env) (hs : S.EnvOk env)
    (args : List Val) (ha : ErU.ListE args) (ho : S.ListOk args) :
    SameText (sprint env args) (plainSprint env args) :=
  sameText_of_relU ((ErU.espec_all env he defaultFuel).doPrint _ _ args erU_entry ha)
    ((S.spec_all env hs defaultFuel).doPrint _ args pre_plainPP ho)

theorem valid_ascii : ∀ c : Byte, c < 0x80 → validRuneB [c] = true := by
  apply byte_forall; decide +kernel

theorem utf8_of_ascii : (l : List Byte) → l.all (· < 0x80) = true → Utf8 l
  | [], _ => .nil
  | c :: r, h => by
    simp only [List.all_cons, Bool.and_eq_true, decide_eq_true_eq] at h
    exact Utf8.cons [c] r (valid_ascii c h.1) (utf8_of_ascii r h.2)

/-! Premises satisfiable: an oracle whose renderings contain a marker character (`a‹b`), a string
operand, a struct holding a Stringer that panics with a string, and a registered safe type; the
format is `%v %+v%d`. -/
def exEnv : Env := { render := fun _ _ => some [0x61, 0xE2, 0x80, 0xB9, 0x62], hook := none }
def exStr : Val := .leaf 0 .str ([0x73, 0x74, 0x72, 0x69, 0x6E, 0x67] /- "string" -/ : List UInt8) none false false
def exArgs : List Val :=
  [exStr,
   .struct ([0x6D, 0x2E, 0x54] /- "m.T" -/ : List UInt8) false
     (.cons ([0x41] /- "A" -/ : List UInt8) true true
       (.meth { stringer := true } ([0x6D, 0x2E, 0x53] /- "m.S" -/ : List UInt8) false false false 1 (.panic exStr) exStr) .nil),
   .leaf 2 .sint ([0x6D, 0x2E, 0x49] /- "m.I" -/ : List UInt8) (some 7) false true]

example : Er.EnvE exEnv ∧ S.EnvOk exEnv ∧ Er.ListE exArgs ∧ S.ListOk exArgs ∧ FmtCl [0x25, 0x76, 0x20, 0x25, 0x2B, 0x76, 0x25, 0x64] := by
  have ha : ∀ (l : List Byte), l.all (· < 0x80) = true → Asc l := fun l h => asc_of_all h
  refine ⟨⟨?_, ?_⟩, ?_, ?_, ?_, ?_⟩
  · intro id d s hs
    simp only [exEnv, Option.some.injEq] at hs
    subst hs
    exact Or.inr ⟨[0x61, 0xE2, 0x80, 0xB9], [0x62], rfl, by decide⟩
  · intro h hh; cases hh
  · intro h hh; cases hh
  · intro v hv
    simp only [exArgs, List.mem_cons, List.not_mem_nil, or_false] at hv
    rcases hv with rfl | rfl | rfl
    · exact ha _ (by decide)
    · simp only [Er.ValE, Er.FieldsE, Er.ScriptE, exStr]
      exact ⟨ha _ (by decide), endsRune_of_asc (ha _ (by decide)), ⟨ha _ (by decide), ha _ (by decide), ha _ (by decide)⟩, trivial⟩
    · exact ha _ (by decide)
  · intro v hv
    simp only [exArgs, List.mem_cons, List.not_mem_nil, or_false] at hv
    rcases hv with rfl | rfl | rfl <;> simp [S.ValOk, S.FieldsOk, S.ScriptOk, exStr]
  · exact utf8_of_ascii _ (by decide)

end C04
end Redact
