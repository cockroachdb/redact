import RedactVerif.Generated.Facts
/-
Regenerated facts: every decision, loop, call and assignment of internal/buffer/buffer.go and of
`escape.InternalEscapeBytes` (`Model/Buffer.lean`, `Model/Escape.lean` mirror them line by line).
Extracted from /repo on every run (extract/main.go) and compared here with what the model was
written against (frozen by tools/gen_expect.py after the correspondence had been run). A change
to any of these functions breaks the equality before any input is run: the check then reports the
violation, with a failing input if the harness finds one.
-/
namespace Redact

def expectSkelBuffer : List (String × List String) := [("Buffer.Cap", ["return cap(b.buf)"]),
  ("Buffer.GetMode", ["return b.mode"]),
  ("Buffer.Grow", ["if n < 0", "do panic(origFmt.Errorf(\"redact.Buffer.Grow: negative count\"))", "fi", "set m := b.grow(n)", "set b.buf = b.buf[:m]"]),
  ("Buffer.Len", ["set copy := *b", "do copy.finalize()", "return len(copy.buf)"]),
  ("Buffer.RedactableBytes", ["do b.finalize()", "return m.RedactableBytes(b.buf)"]),
  ("Buffer.RedactableString", ["do b.finalize()", "return m.RedactableString(b.buf)"]),
  ("Buffer.Reset", ["set b.buf = b.buf[:0]", "set b.validUntil = 0", "set b.mode = UnsafeEscaped", "set b.markerOpen = false"]),
  ("Buffer.SetMode", ["if b.mode == newMode", "return", "fi", "if b.mode == UnsafeEscaped || b.mode == SafeEscaped", "do b.escapeToEnd(b.mode == UnsafeEscaped)", "fi", "if b.markerOpen", "do b.endRedactable()", "fi", "set b.validUntil = len(b.buf)", "set b.mode = newMode"]),
  ("Buffer.String", ["do b.finalize()", "return m.RedactableString(b.buf).StripMarkers()"]),
  ("Buffer.TakeRedactableBytes", ["do b.finalize()", "set r := b.buf", "set b.buf = nil", "set b.validUntil = 0", "set b.mode = UnsafeEscaped", "return m.RedactableBytes(r)"]),
  ("Buffer.TakeRedactableString", ["if b == nil", "return \"<nil>\"", "fi", "do b.finalize()", "set r := *(*m.RedactableString)(unsafe.Pointer(&b.buf))", "set b.buf = nil", "set b.validUntil = 0", "set b.mode = UnsafeEscaped", "return r"]),
  ("Buffer.Write", ["do b.startWrite()", "set m,ok := b.tryGrowByReslice(len(p))", "if !ok", "set m = b.grow(len(p))", "fi", "return copy(b.buf[m:], p),nil"]),
  ("Buffer.WriteByte", ["do b.startWrite()", "if b.mode == UnsafeEscaped && (s >= utf8.RuneSelf || s == m.StartS[0] || s == m.EndS[0])", "set _,err := b.WriteString(m.EscapeMarkS)", "return err", "fi", "set m,ok := b.tryGrowByReslice(1)", "if !ok", "set m = b.grow(1)", "fi", "set b.buf[m] = s", "return nil"]),
  ("Buffer.WriteRune", ["do b.startWrite()", "set l := utf8.RuneLen(s)", "if l < 0", "set l = utf8.RuneLen(utf8.RuneError)", "fi", "set m,ok := b.tryGrowByReslice(l)", "if !ok", "set m = b.grow(l)", "fi", "set _ = utf8.EncodeRune(b.buf[m:], s)", "return nil"]),
  ("Buffer.WriteString", ["do b.startWrite()", "set m,ok := b.tryGrowByReslice(len(s))", "if !ok", "set m = b.grow(len(s))", "fi", "return copy(b.buf[m:], s),nil"]),
  ("Buffer.clone", ["set c := *b", "set c.buf = append([]byte(nil), b.buf...)", "return &c"]),
  ("Buffer.endRedactable", ["if len(b.buf) == 0", "return", "fi", "if bytes.HasSuffix(b.buf, m.StartBytes)", "set b.buf = b.buf[:len(b.buf)-m.StartLen]", "else", "set p,ok := b.tryGrowByReslice(m.EndLen)", "if !ok", "set p = b.grow(m.EndLen)", "fi", "do copy(b.buf[p:], m.EndS)", "fi", "set b.markerOpen = false"]),
  ("Buffer.escapeToEnd", ["set b.buf = escape.InternalEscapeBytes(b.buf, b.validUntil, breakNewLines, false)", "set b.validUntil = len(b.buf)"]),
  ("Buffer.finalize", ["if b.mode == SafeRaw", "set b.validUntil = len(b.buf)", "else", "do b.escapeToEnd(b.mode == UnsafeEscaped)", "fi", "if b.markerOpen", "do b.endRedactable()", "set b.validUntil = len(b.buf)", "fi"]),
  ("Buffer.grow", ["set m := len(b.buf)", "set i,ok := b.tryGrowByReslice(n)", "if ok", "return i", "fi", "if b.buf == nil && n <= smallBufferSize", "set b.buf = make([]byte, n, smallBufferSize)", "return 0", "fi", "set c := cap(b.buf)", "if n <= c/2-m", "else", "if c > maxInt-c-n", "do panic(ErrTooLarge)", "else", "set buf := makeSlice(2*c + n)", "do copy(buf, b.buf)", "set b.buf = buf", "fi", "fi", "set b.buf = b.buf[:m+n]", "return m"]),
  ("Buffer.startRedactable", ["if bytes.HasSuffix(b.buf, m.EndBytes)", "set b.buf = b.buf[:len(b.buf)-m.EndLen]", "else", "set p,ok := b.tryGrowByReslice(len(m.StartS))", "if !ok", "set p = b.grow(len(m.StartS))", "fi", "do copy(b.buf[p:], m.StartS)", "fi", "set b.markerOpen = true"]),
  ("Buffer.startWrite", ["if b.mode == UnsafeEscaped && !b.markerOpen", "do b.startRedactable()", "set b.validUntil = len(b.buf)", "fi"]),
  ("Buffer.tryGrowByReslice", ["set l := len(b.buf)", "if n <= cap(b.buf)-l", "set b.buf = b.buf[:l+n]", "return l,true", "fi", "return 0,false"]),
  ("InternalEscapeBytes", ["set start,ls := m.StartBytes,len(m.StartS)", "set end,le := m.EndBytes,len(m.EndS)", "set escape := m.EscapeMarkBytes", "if strip", "set end := len(b)", "set i := end - 1", "for i >= startLoc", "if b[i] == '\\n' || b[i] == ' '", "set end = i", "else", "break", "fi", "set i--", "rof", "set b = b[:end]", "fi", "set res = b", "set copied := false", "set k := 0", "set i := startLoc", "for i < len(b)", "if breakNewLines && b[i] == '\\n'", "if !copied", "set res = make([]byte, 0, len(b))", "set copied = true", "fi", "set res = append(res, b[k:i]...)", "if bytes.HasSuffix(res, start)", "set res = res[:len(res)-ls]", "else", "set res = append(res, end...)", "fi", "set lastNewLine := i", "for lastNewLine < len(b) && b[lastNewLine] == '\\n'", "set lastNewLine++", "rof", "set res = append(res, b[i:lastNewLine]...)", "set res = append(res, start...)", "set k = lastNewLine", "set i = lastNewLine - 1", "else", "if i+ls <= len(b) && bytes.Equal(b[i:i+ls], start)", "if !copied", "set res = make([]byte, 0, len(b)+len(escape))", "set copied = true", "fi", "set res = append(res, b[k:i]...)", "set res = append(res, escape...)", "set k = i + ls", "set i += ls - 1", "else", "if i+le <= len(b) && bytes.Equal(b[i:i+le], end)", "if !copied", "set res = make([]byte, 0, len(b)+len(escape))", "set copied = true", "fi", "set res = append(res, b[k:i]...)", "set res = append(res, escape...)", "set k = i + le", "set i += le - 1", "fi", "fi", "fi", "set i++", "rof", "set r,s := utf8.DecodeLastRune(b)", "if s == 1 && r == utf8.RuneError", "if !copied", "set res = make([]byte, 0, len(b)+len(escape))", "set copied = true", "fi", "set res = append(res, b[k:]...)", "set res = append(res, escape...)", "set k = len(b)", "fi", "if copied", "set res = append(res, b[k:]...)", "fi", "return"])]

theorem gen_skel_buffer : Gen.skelBuffer = expectSkelBuffer := rfl

end Redact
