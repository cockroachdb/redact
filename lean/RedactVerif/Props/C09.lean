import RedactVerif.Props.TransPP
import RedactVerif.Proofs.Plain
import RedactVerif.Proofs.Lab
import RedactVerif.Props.C02
import RedactVerif.Props.FactsSkelBuffer
import RedactVerif.Props.TransBuffer
import RedactVerif.Props.TransBuilder
import RedactVerif.Props.FactsSkelWriters
/-
C09 — SafeWriter contract: each payload lands once, in order, on its own side.

Well-formedness and line safety of every call sequence is C01 (`builder_wf`,
`adapter_wf`, `buffer_wf`). Here the two equalities, for `builder.StringBuilder`
(through it the buffer) and the printer's SafeWriter adapter, and every sequence
of SafeWriter calls whose payloads are empty or end in a complete UTF-8
character (every valid-UTF-8 payload does; before its last character a payload
may hold anything: markers, partial markers, invalid sequences, line feeds):

* `builder_strip_partial`: with markers stripped, the result is the concatenation, in
  call order, of the payloads with marker characters replaced by `?`;
* `builder_dropEnv_partial`: with envelopes deleted, it is the concatenation of the
  safe payloads (markers replaced by `?`), the line feeds of the unsafe ones,
  and the outside text of inner print results;
* `builder_lab_partial`: the labelled reading (`Proofs/Lab.lean`: `labT` reads a redactable as its bytes in
  order, each with its side, inside an envelope or outside) is the concatenation of the payloads
  on their own sides. Merging adjacent envelopes and dropping empty ones are exactly what `labT`
  ignores (`labT_merge`, `labT_empty_env`), and it determines the two readings above
  (`stripT_of_lab`, `safeText_of_lab`); equality of labelled readings is the agreement of the
  implementations up to merging of adjacent envelopes.

A StringBuilder call is one mode switch and one write (`builderOps_run`), a call on the adapter
the same followed by the switch back (`adapterStep_no`), so `setMode_K/L` and `write_K/L` carry the
invariants through both; the ManualBuffer section does the same for free sequences of `SetMode`
and writes.

The hypothesis on the payloads' end keeps the truncated-UTF-8 tail fix from
firing (it appends one `?` after a payload that ends in the middle of a
multi-byte sequence when the mode is switched there, and nothing otherwise —
which is why the property restricts these two equalities to valid UTF-8;
`tail_fix_visible`). Runes need no hypothesis: `utf8.EncodeRune` always yields a
complete character (`valid_encodeRune`, invalid runes encode U+FFFD). Single
bytes (`SafeByte`, `UnsafeByte`) are taken ASCII:
an unsafe non-ASCII byte is replaced by `?` (C11). The theorems carry the suffix
`_partial` for that restriction and because `Print/Printf` on the adapter
(nested printers) belong to the printer model, not to this call alphabet.
-/
namespace Redact

/-- Payloads that are empty or end in a complete character; inner print results are finished redactables. -/
def CleanW : WOp → Prop
  | .safeString p => EndsRune p
  | .safeNum p => EndsRune p
  | .unsafeString p => EndsRune p
  | .safeByte x => x < 0x80
  | .unsafeByte x => x < 0x80
  | .safeRune _ => True
  | .unsafeRune _ => True
  | .print r => Obtainable r ∧ RuneEnd (tokenize r)

/-- What a call contributes to the stripped reading. -/
def plainW : WOp → List Tok
  | .safeString p => escT (tokenize p)
  | .safeNum p => escT (tokenize p)
  | .unsafeString p => escT (tokenize p)
  | .safeByte x => [.b x]
  | .unsafeByte x => [.b x]
  | .safeRune r => escT (tokenize (encodeRune r))
  | .unsafeRune r => escT (tokenize (encodeRune r))
  | .print r => stripT (tokenize r)

/-- What a call contributes outside envelopes. -/
def safeW : WOp → List Tok
  | .safeString p => escT (tokenize p)
  | .safeNum p => escT (tokenize p)
  | .unsafeString p => lfT (tokenize p)
  | .safeByte x => [.b x]
  | .unsafeByte x => lfT [.b x]
  | .safeRune r => escT (tokenize (encodeRune r))
  | .unsafeRune r => lfT (tokenize (encodeRune r))
  | .print r => dropEnvT (tokenize r)

/-- What a call contributes to the labelled reading: its payload on its own side — safe calls
outside (markers replaced by `?`), unsafe calls inside (markers replaced by `?`) except their line
feeds, inner print results as they are. -/
def labW : WOp → List LB
  | .safeString p => pendLab .safeEsc p
  | .safeNum p => pendLab .safeEsc p
  | .unsafeString p => pendLab .unsafeEsc p
  | .safeByte x => pendLab .safeEsc [x]
  | .unsafeByte x => pendLab .unsafeEsc [x]
  | .safeRune r => pendLab .safeEsc (encodeRune r)
  | .unsafeRune r => pendLab .unsafeEsc (encodeRune r)
  | .print r => pendLab .raw r

/-- The mode a call switches the StringBuilder's buffer to, and the bytes it then writes there. -/
def modeW : WOp → Mode
  | .safeString _ | .safeNum _ | .safeByte _ | .safeRune _ => .safeEsc
  | .unsafeString _ | .unsafeByte _ | .unsafeRune _ => .unsafeEsc
  | .print _ => .raw

def bytesW : WOp → List Byte
  | .safeString p | .safeNum p | .unsafeString p | .print p => p
  | .safeByte x | .unsafeByte x => [x]
  | .safeRune r | .unsafeRune r => encodeRune r

theorem kinv_init : KInv Buffer.init [] [] :=
  ⟨inv_init, runeEnd_nil, fun _ => runeEnd_nil, fun _ => Or.inl rfl, rfl, rfl⟩

theorem lr_init : LR Buffer.init [] := rfl

theorem writeByte_ascii (b : Buffer) (x : Byte) (hx : x < 0x80) : b.writeByte x = b.write [x] := by
  simp [Buffer.writeByte, Buffer.write, UInt8.not_le.2 hx]

theorem tokenize_ascii (x : Byte) (hx : x < 0x80) : tokenize [x] = [.b x] := by
  have : x ≠ 0xE2 := by intro h; subst h; revert hx; decide
  rw [tokenize_plain_ne x [] this]; simp

theorem endsRune_snoc_ascii (q : List Byte) (c : Byte) (hc : c < 0x80) : EndsRune (q ++ [c]) :=
  Or.inr ⟨q, [c], rfl, by simpa [validRuneB] using hc⟩

theorem builderOps_run (b : Buffer) (w : WOp) (hw : CleanW w) :
    b.run (builderOps w) = (b.setMode (modeW w)).write (bytesW w) := by
  cases w with
  | safeByte x | unsafeByte x =>
    simp only [builderOps, Buffer.run, List.foldl_cons, List.foldl_nil, Buffer.step]
    exact writeByte_ascii _ x hw
  | _ => rfl

theorem cleanW_bytes (w : WOp) (hw : CleanW w) :
    (modeW w = .raw → Obtainable (bytesW w) ∧ RuneEnd (tokenize (bytesW w))) ∧
      (modeW w ≠ .raw → EndsRune (bytesW w)) := by
  cases w with
  | print r => exact ⟨fun _ => hw, fun h => absurd rfl h⟩
  | safeByte x | unsafeByte x => exact ⟨nofun, fun _ => endsRune_snoc_ascii [] x hw⟩
  | safeRune r | unsafeRune r => exact ⟨nofun, fun _ => endsRune_encodeRune r⟩
  | _ => exact ⟨nofun, fun _ => hw⟩

theorem plainW_eq (w : WOp) (hw : CleanW w) : plainW w = pendPlainT (modeW w) (bytesW w) := by
  cases w with
  | safeByte x | unsafeByte x => simp [plainW, pendPlainT, modeW, bytesW, tokenize_ascii x hw, escT]
  | _ => rfl

theorem safeW_eq (w : WOp) (hw : CleanW w) : safeW w = pendSafeT (modeW w) (bytesW w) := by
  cases w with
  | safeByte x | unsafeByte x => simp [safeW, pendSafeT, modeW, bytesW, tokenize_ascii x hw, escT]
  | _ => rfl

theorem labW_eq (w : WOp) : labW w = pendLab (modeW w) (bytesW w) := by cases w <;> rfl

/-- A switch to mode `m` and a write there extend the three readings by the payload's in mode `m`. -/
theorem setMode_write_KL (b : Buffer) (m : Mode) (p : List Byte) (acc dacc : List Tok) (lacc : List LB)
    (k : KInv b acc dacc) (l : LR b lacc) (hr : m = .raw → Obtainable p ∧ RuneEnd (tokenize p)) (he : m ≠ .raw → EndsRune p) :
    KInv ((b.setMode m).write p) (acc ++ pendPlainT m p) (dacc ++ pendSafeT m p) ∧
      LR ((b.setMode m).write p) (lacc ++ pendLab m p) := by
  have k1 := setMode_K b m acc dacc k
  have hk := write_K _ p acc dacc k1
  have hl := write_L _ p acc dacc lacc k1 (setMode_L b m acc dacc lacc k l)
  rw [setMode_mode] at hk hl
  exact ⟨hk hr he, hl⟩

theorem builderOps_KL (b : Buffer) (w : WOp) (acc dacc : List Tok) (lacc : List LB) (k : KInv b acc dacc) (l : LR b lacc)
    (hw : CleanW w) :
    KInv (b.run (builderOps w)) (acc ++ plainW w) (dacc ++ safeW w) ∧ LR (b.run (builderOps w)) (lacc ++ labW w) := by
  rw [builderOps_run b w hw, plainW_eq w hw, safeW_eq w hw, labW_eq]
  exact setMode_write_KL b _ _ acc dacc lacc k l (cleanW_bytes w hw).1 (cleanW_bytes w hw).2

theorem builderRun_KL (b : Buffer) (ws : List WOp) (acc dacc : List Tok) (lacc : List LB) (k : KInv b acc dacc)
    (l : LR b lacc) (hw : ∀ w ∈ ws, CleanW w) :
    KInv (builderRun b ws) (acc ++ ws.flatMap plainW) (dacc ++ ws.flatMap safeW) ∧
      LR (builderRun b ws) (lacc ++ ws.flatMap labW) := by
  induction ws generalizing b acc dacc lacc with
  | nil => simpa [builderRun, Buffer.run] using And.intro k l
  | cons w r ih =>
    have ⟨k1, l1⟩ := builderOps_KL b w acc dacc lacc k l (hw w (by simp))
    simpa [builderRun_cons, List.flatMap_cons, List.append_assoc] using
      ih _ _ _ _ k1 l1 (fun w' hw' => hw w' (by simp [hw']))

theorem builderOps_K (b : Buffer) (w : WOp) (acc dacc : List Tok) (k : KInv b acc dacc) (hw : CleanW w) :
    KInv (b.run (builderOps w)) (acc ++ plainW w) (dacc ++ safeW w) :=
  (builderOps_KL b w acc dacc _ k rfl hw).1

theorem builderRun_K (b : Buffer) (ws : List WOp) (acc dacc : List Tok) (k : KInv b acc dacc) (hw : ∀ w ∈ ws, CleanW w) :
    KInv (builderRun b ws) (acc ++ ws.flatMap plainW) (dacc ++ ws.flatMap safeW) :=
  (builderRun_KL b ws acc dacc _ k rfl hw).1

theorem readings_of_KL {b : Buffer} {acc dacc : List Tok} {lacc : List LB} (k : KInv b acc dacc) (l : LR b lacc) :
    stripMarkers b.redactableBytes = untok acc ∧ dropEnv b.redactableBytes = untok dacc ∧
      labT (tokenize b.redactableBytes) = lacc := by
  have ⟨_, p, s⟩ := finalize_K _ _ _ k
  have ⟨f, _, _⟩ := finalize_full _ k.inv
  refine ⟨congrArg untok p, ?_, finalize_L _ _ _ _ k l⟩
  unfold dropEnv dropEnvT Buffer.redactableBytes
  rw [(dropEnv_eq_safeText _).1 (scanWF_of_scan _ _ _ f.sc)]
  exact congrArg untok s

theorem builder_readings (ws : List WOp) (hw : ∀ w ∈ ws, CleanW w) :
    stripMarkers (builderRun Buffer.init ws).redactableBytes = untok (ws.flatMap plainW) ∧
      dropEnv (builderRun Buffer.init ws).redactableBytes = untok (ws.flatMap safeW) ∧
      labT (tokenize (builderRun Buffer.init ws).redactableBytes) = ws.flatMap labW :=
  have ⟨k, l⟩ := builderRun_KL Buffer.init ws [] [] [] kinv_init lr_init hw
  readings_of_KL k l

/-- **C09, stripped reading (partial: single bytes ASCII).** -/
theorem builder_strip_partial (ws : List WOp) (hw : ∀ w ∈ ws, CleanW w) :
    stripMarkers (builderRun Buffer.init ws).redactableBytes = untok (ws.flatMap plainW) :=
  (builder_readings ws hw).1

/-- **C09, reading outside envelopes (partial: single bytes ASCII).** -/
theorem builder_dropEnv_partial (ws : List WOp) (hw : ∀ w ∈ ws, CleanW w) :
    dropEnv (builderRun Buffer.init ws).redactableBytes = untok (ws.flatMap safeW) :=
  (builder_readings ws hw).2.1

/-- **C09, labelled reading of the StringBuilder**: the result's bytes, each with its side, are the
concatenation in call order of the payloads on their own sides. -/
theorem builder_lab_partial (ws : List WOp) (hw : ∀ w ∈ ws, CleanW w) :
    labT (tokenize (builderRun Buffer.init ws).redactableBytes) = ws.flatMap labW :=
  (builder_readings ws hw).2.2

/-- Under no override a call on the adapter is the StringBuilder's, followed by the switch back
to the mode it found (restorer pattern); the inner `startUnsafe` of the numeric calls does nothing. -/
theorem adapterStep_no (p : PPB) (w : WOp) (ho : p.override = .no) (hnp : ∀ r, w ≠ .print r) :
    adapterStep p w = { buf := (p.buf.run (builderOps w)).setMode p.buf.mode, override := .no } := by
  cases w with
  | print r => exact absurd rfl (hnp r)
  | safeNum s =>
    have : ((p.buf.setMode .safeEsc).write s).setMode .safeEsc = (p.buf.setMode .safeEsc).write s :=
      setMode_same _ _ (by rw [write_mode, setMode_mode])
    simp [adapterStep, PPB.startSafeOverride, PPB.startUnsafe, PPB.restore, PPB.onBuf, ho, builderOps, Buffer.run,
      Buffer.step, setMode_mode, this]
  | _ => simp [adapterStep, PPB.startSafeOverride, PPB.startUnsafe, PPB.restore, PPB.onBuf, ho, builderOps, Buffer.run, Buffer.step]

theorem adapterRun_KL (p : PPB) (ws : List WOp) (acc dacc : List Tok) (lacc : List LB) (k : KInv p.buf acc dacc)
    (l : LR p.buf lacc) (ho : p.override = .no) (hw : ∀ w ∈ ws, CleanW w ∧ ∀ r, w ≠ .print r) :
    KInv (adapterRun p ws).buf (acc ++ ws.flatMap plainW) (dacc ++ ws.flatMap safeW) ∧
      LR (adapterRun p ws).buf (lacc ++ ws.flatMap labW) := by
  induction ws generalizing p acc dacc lacc with
  | nil => simpa [adapterRun] using And.intro k l
  | cons w r ih =>
    have e := adapterStep_no p w ho (hw w (by simp)).2
    have ⟨k1, l1⟩ := builderOps_KL p.buf w acc dacc lacc k l (hw w (by simp)).1
    have := ih (adapterStep p w) _ _ _ (by rw [e]; exact setMode_K _ _ _ _ k1) (by rw [e]; exact setMode_L _ _ _ _ _ k1 l1)
      (by rw [e]) (fun w' hw' => hw w' (by simp [hw']))
    simpa [adapterRun, List.flatMap_cons, List.append_assoc] using this

theorem adapter_readings (ws : List WOp) (hw : ∀ w ∈ ws, CleanW w ∧ ∀ r, w ≠ .print r) :
    stripMarkers (adapterRun {} ws).buf.redactableBytes = untok (ws.flatMap plainW) ∧
      dropEnv (adapterRun {} ws).buf.redactableBytes = untok (ws.flatMap safeW) ∧
      labT (tokenize (adapterRun {} ws).buf.redactableBytes) = ws.flatMap labW :=
  have ⟨k, l⟩ := adapterRun_KL {} ws [] [] [] kinv_init lr_init rfl hw
  readings_of_KL k l

/-- **C09 on the printer's SafeWriter adapter** (the SafePrinter handed to `SafeFormat` / `Sprintfn`,
no enclosing Safe/Unsafe wrapper): the same two readings as on the StringBuilder. -/
theorem adapter_strip_partial (ws : List WOp) (hw : ∀ w ∈ ws, CleanW w ∧ ∀ r, w ≠ .print r) :
    stripMarkers (adapterRun {} ws).buf.redactableBytes = untok (ws.flatMap plainW) :=
  (adapter_readings ws hw).1

theorem adapter_dropEnv_partial (ws : List WOp) (hw : ∀ w ∈ ws, CleanW w ∧ ∀ r, w ≠ .print r) :
    dropEnv (adapterRun {} ws).buf.redactableBytes = untok (ws.flatMap safeW) :=
  (adapter_readings ws hw).2.1

/-- The same labelled reading on the printer's SafeWriter adapter. -/
theorem adapter_lab_partial (ws : List WOp) (hw : ∀ w ∈ ws, CleanW w ∧ ∀ r, w ≠ .print r) :
    labT (tokenize (adapterRun {} ws).buf.redactableBytes) = ws.flatMap labW :=
  (adapter_readings ws hw).2.2

/-- Hence the two implementations agree on both readings for every such call sequence. -/
theorem builder_adapter_agree_partial (ws : List WOp) (hw : ∀ w ∈ ws, CleanW w ∧ ∀ r, w ≠ .print r) :
    stripMarkers (adapterRun {} ws).buf.redactableBytes = stripMarkers (builderRun Buffer.init ws).redactableBytes ∧
    dropEnv (adapterRun {} ws).buf.redactableBytes = dropEnv (builderRun Buffer.init ws).redactableBytes := by
  rw [adapter_strip_partial ws hw, adapter_dropEnv_partial ws hw,
    builder_strip_partial ws (fun w h => (hw w h).1), builder_dropEnv_partial ws (fun w h => (hw w h).1)]
  exact ⟨rfl, rfl⟩

/-- **The implementations agree up to merging of adjacent envelopes**: the StringBuilder and the
printer's SafeWriter adapter produce, for every such call sequence, redactables with the same bytes
on the same sides (`labT_merge`, `labT_empty_env`: that is what merging `›‹` and dropping `‹›` preserve). -/
theorem builder_adapter_same_lab_partial (ws : List WOp) (hw : ∀ w ∈ ws, CleanW w ∧ ∀ r, w ≠ .print r) :
    labT (tokenize (adapterRun {} ws).buf.redactableBytes) = labT (tokenize (builderRun Buffer.init ws).redactableBytes) := by
  rw [adapter_lab_partial ws hw, builder_lab_partial ws (fun w h => (hw w h).1)]

/-- The hypothesis matters: a payload ending inside a multi-byte sequence gets a `?` when the
mode is switched right after it. -/
theorem tail_fix_visible :
    stripMarkers (builderRun Buffer.init [.unsafeString [0x61, 0xC3], .safeString [0x62]]).redactableBytes
      = [0x61, 0xC3, 0x3F, 0x62] := by decide

/-! Non-vacuity: payloads with markers, partial markers and line feeds inside; a payload ending in a
multi-byte character. -/
def exWs : List WOp :=
  [.unsafeString ([0x61] ++ startB ++ [0x0A, 0xE2, 0x62]), .safeString (endB ++ [0x63]), .unsafeByte 0x0A, .safeByte 0x64]

theorem exWs_clean : ∀ w ∈ exWs, CleanW w := by
  intro w hw
  simp only [exWs, List.mem_cons, List.not_mem_nil, or_false] at hw
  rcases hw with rfl | rfl | rfl | rfl
  · exact endsRune_snoc_ascii ([0x61] ++ startB ++ [0x0A, 0xE2]) 0x62 (by decide)
  · exact endsRune_snoc_ascii endB 0x63 (by decide)
  · show (0x0A : Byte) < 0x80; decide
  · show (0x64 : Byte) < 0x80; decide

example : stripMarkers (builderRun Buffer.init exWs).redactableBytes
    = [0x61, 0x3F, 0x0A, 0xE2, 0x62, 0x3F, 0x63, 0x0A, 0x64] := by
  rw [builder_strip_partial _ exWs_clean]; decide

example : dropEnv (builderRun Buffer.init exWs).redactableBytes = [0x0A, 0x3F, 0x63, 0x0A, 0x64] := by
  rw [builder_dropEnv_partial _ exWs_clean]; decide

example : EndsRune ([0x61, 0xE2, 0x80] ++ [0xC3, 0xA9]) := Or.inr ⟨_, [0xC3, 0xA9], rfl, by decide⟩

/-- The hypothesis of the partial theorems, read on the code's own test: a payload "ends in a
complete character" exactly when `InternalEscapeBytes`' tail test (`DecodeLastRune`) passes on it. -/
theorem endsRune_iff_tail_test (p : List Byte) : EndsRune p ↔ tailBad p = false := (tailBad_false_iff p).symm

/-! ### ManualBuffer: any sequence of `SetMode` and writes -/

def opMode (m : Mode) : Op → Mode
  | .setMode m' => m'
  | _ => m

def opLab (m : Mode) : Op → List LB
  | .write p => pendLab m p
  | .writeByte x => pendLab m [x]
  | .writeRune r => pendLab m (encodeRune r)
  | _ => []

/-- The labelled reading an operation sequence should produce, from the mode it starts in. -/
def runLab : Mode → List Op → List LB
  | _, [] => []
  | m, op :: r => opLab m op ++ runLab (opMode m op) r

/-- Payloads: in raw mode finished redactables, otherwise anything ending in a complete character;
single bytes ASCII and runes outside raw mode. -/
def OpClean (m : Mode) : Op → Prop
  | .setMode _ => True
  | .write p => (m = .raw → Obtainable p ∧ RuneEnd (tokenize p)) ∧ (m ≠ .raw → EndsRune p)
  | .writeByte x => x < 0x80 ∧ m ≠ .raw
  | .writeRune _ => m ≠ .raw
  | _ => False

def OpsClean : Mode → List Op → Prop
  | _, [] => True
  | m, op :: r => OpClean m op ∧ OpsClean (opMode m op) r

theorem step_KL (b : Buffer) (op : Op) (acc dacc : List Tok) (lacc : List LB) (k : KInv b acc dacc) (l : LR b lacc)
    (h : OpClean b.mode op) :
    (∃ acc' dacc', KInv (b.step op).1 acc' dacc') ∧ LR (b.step op).1 (lacc ++ opLab b.mode op) ∧ (b.step op).1.mode = opMode b.mode op := by
  -- a write of `p`, in whichever of the three forms
  have wr : ∀ p, (b.mode = .raw → Obtainable p ∧ RuneEnd (tokenize p)) → (b.mode ≠ .raw → EndsRune p) →
      (∃ acc' dacc', KInv (b.write p) acc' dacc') ∧ LR (b.write p) (lacc ++ pendLab b.mode p) ∧ (b.write p).mode = b.mode :=
    fun p hr he => ⟨⟨_, _, write_K b p acc dacc k hr he⟩, write_L b p acc dacc lacc k l, write_mode b p⟩
  cases op with
  | setMode m =>
    exact ⟨⟨_, _, setMode_K b m acc dacc k⟩, by simpa [Buffer.step, opLab] using setMode_L b m acc dacc lacc k l, setMode_mode b m⟩
  | write p => exact wr p h.1 h.2
  | writeByte x =>
    simp only [Buffer.step, writeByte_ascii b x h.1]
    exact wr [x] (fun hr => absurd hr h.2) (fun _ => endsRune_snoc_ascii [] x h.1)
  | writeRune r => exact wr _ (fun hr => absurd hr h) (fun _ => endsRune_encodeRune r)
  | _ => exact h.elim

theorem run_KL (b : Buffer) (ops : List Op) (acc dacc : List Tok) (lacc : List LB) (k : KInv b acc dacc) (l : LR b lacc)
    (h : OpsClean b.mode ops) :
    (∃ acc' dacc', KInv (b.run ops) acc' dacc') ∧ LR (b.run ops) (lacc ++ runLab b.mode ops) := by
  induction ops generalizing b acc dacc lacc with
  | nil => exact ⟨⟨acc, dacc, k⟩, by simpa [Buffer.run, runLab] using l⟩
  | cons op r ih =>
    obtain ⟨⟨a1, d1, k1⟩, l1, m1⟩ := step_KL b op acc dacc lacc k l h.1
    have := ih (b.step op).1 a1 d1 _ k1 l1 (by rw [m1]; exact h.2)
    rw [m1] at this
    simpa [Buffer.run, runLab, List.append_assoc] using this

/-- **ManualBuffer** (the buffer itself, with explicit `SetMode` and raw writes of finished
redactables): every such operation sequence yields the labelled concatenation of its payloads. -/
theorem buffer_lab_partial (ops : List Op) (h : OpsClean .unsafeEsc ops) :
    labT (tokenize (Buffer.init.run ops).redactableBytes) = runLab .unsafeEsc ops := by
  obtain ⟨⟨a, d, k⟩, l⟩ := run_KL Buffer.init ops [] [] [] kinv_init lr_init h
  exact (readings_of_KL k l).2.2

/-! Non-vacuity: a sequence with a line feed inside an unsafe payload and a marker inside a safe one. -/
example : labT (tokenize (builderRun Buffer.init
      [.safeString [0x61], .unsafeString [0x62, 0x0A, 0x63], .safeString ([0x64] ++ startB)]).redactableBytes)
    = [(0x61, false), (0x62, true), (0x0A, false), (0x63, true), (0x64, false), (0x3F, false)] := by decide

end Redact
