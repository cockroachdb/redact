import RedactVerif.Proofs.Scan
import RedactVerif.Proofs.Tokens
import RedactVerif.Props.FactsConsts
import RedactVerif.Props.TransMarkers
import RedactVerif.Proofs.Canon
/-
C07 — Redact and StripMarkers are exact, idempotent projections.

Token-level theorems about `redactT` / `stripT` (the Go regexps' ReplaceAll
semantics, transcribed in Model/Markers.lean; that Go's regexp engine agrees
with the transcription on bytes is checked by the exhaustive correspondence,
not proved).

FULL STATEMENT not proved (false of the code): "on arbitrary strings
StripMarkers leaves no marker character". `strip_can_reassemble_marker`
proves the negation on the witness of known finding D4; what is proved
instead is that no marker *token* survives (`stripT_no_marker`), i.e. the
delimiters are removed exactly.
-/
namespace Redact

/-- The exact meaning of redaction on a well-formed string: every envelope,
and nothing else, becomes `‹×›`; no token of any envelope's content survives. -/
def blank : Bool → List Tok → List Tok
  | _, [] => []
  | false, .s :: r => .s :: (crossT ++ .e :: blank true r)
  | true, .e :: r => blank false r
  | true, _ :: r => blank true r
  | false, t :: r => t :: blank false r

/-- Induction along a well-formed token list: `C` is to hold of what follows a point outside an
envelope, `O` of what follows a point inside one. -/
theorem scanWF_induction {C O : List Tok → Prop} (nil : C [])
    (s : ∀ r, O r → C (.s :: r)) (bC : ∀ x r, C r → C (.b x :: r))
    (e : ∀ r, C r → O (.e :: r)) (bO : ∀ x r, O r → O (.b x :: r)) (t : List Tok) :
    (scanWFFrom false t = some false → C t) ∧ (scanWFFrom true t = some false → O t) := by
  induction t with
  | nil => exact ⟨fun _ => nil, by simp [scanWFFrom]⟩
  | cons x r ih =>
    cases x with
    | s => exact ⟨fun h => s r (ih.2 h), by simp [scanWFFrom]⟩
    | e => exact ⟨by simp [scanWFFrom], fun h => e r (ih.1 h)⟩
    | b y => exact ⟨fun h => bC y r (ih.1 h), fun h => bO y r (ih.2 h)⟩

/-- On the rest of an open envelope of a well-formed string, the pending
candidate match of `Redact` succeeds and the content is dropped. -/
theorem redactAux_eq_blank (t : List Tok) :
    (scanWFFrom false t = some false → redactAux none t = blank false t) ∧
    (scanWFFrom true t = some false → ∀ acc, .s :: (crossT ++ .e :: blank true t) = redactAux (some acc) t) := by
  apply scanWF_induction
  · rfl
  · exact fun r h => (h []).symm
  · intro x r h; simp [redactAux, blank, h]
  · intro r h acc; simp [redactAux, blank, h]
  · exact fun x r h acc => h _

/-- **Exactness of `Redact`** on well-formed redactables. -/
theorem redactT_exact (t : List Tok) (h : WF t) : redactT t = blank false t :=
  (redactAux_eq_blank t).1 h

theorem blank_wf (t : List Tok) :
    (scanWFFrom false t = some false → scanWFFrom false (blank false t) = some false) ∧
    (scanWFFrom true t = some false → scanWFFrom false (blank true t) = some false) := by
  apply scanWF_induction <;> intros <;> simp [blank, scanWFFrom, crossT, *]

theorem redactT_wf (t : List Tok) (h : WF t) : WF (redactT t) := by
  rw [redactT_exact t h]; exact (blank_wf t).1 h

/-- Safe text (what is outside envelopes), on well-formed input. -/
def outside : Bool → List Tok → List Tok
  | _, [] => []
  | false, .s :: r => outside true r
  | true, .e :: r => outside false r
  | true, _ :: r => outside true r
  | false, t :: r => t :: outside false r

/-- Redaction keeps the safe text, in the same order. -/
theorem outside_blank (t : List Tok) :
    (scanWFFrom false t = some false → outside false (blank false t) = outside false t) ∧
    (scanWFFrom true t = some false → outside false (blank true t) = outside true t) := by
  apply scanWF_induction <;> intros <;> simp [blank, outside, crossT, *]

theorem redactT_same_safe_text (t : List Tok) (h : WF t) :
    outside false (redactT t) = outside false t := by
  rw [redactT_exact t h]; exact (outside_blank t).1 h

def countS : List Tok → Nat
  | [] => 0
  | .s :: r => countS r + 1
  | _ :: r => countS r

theorem countS_append (a b : List Tok) : countS (a ++ b) = countS a + countS b := by
  induction a with
  | nil => simp [countS]
  | cons x r ih => cases x <;> simp [countS, ih] <;> omega

/-- Redaction keeps the number of envelopes. -/
theorem countS_blank (t : List Tok) :
    (scanWFFrom false t = some false → countS (blank false t) = countS t) ∧
    (scanWFFrom true t = some false → countS (blank true t) = countS t) := by
  apply scanWF_induction <;> intros <;> simp [blank, countS, crossT, *]

theorem redactT_count (t : List Tok) (h : WF t) : countS (redactT t) = countS t := by
  rw [redactT_exact t h]; exact (countS_blank t).1 h

/-- Redacting a redacted well-formed string changes nothing. -/
theorem blank_blank (t : List Tok) :
    (scanWFFrom false t = some false → blank false (blank false t) = blank false t) ∧
    (scanWFFrom true t = some false → blank false (blank true t) = blank true t) := by
  apply scanWF_induction <;> intros <;> simp [blank, crossT, *]

theorem redactT_idem_wf (t : List Tok) (h : WF t) : redactT (redactT t) = redactT t := by
  have h2 := redactT_wf t h
  rw [redactT_exact _ h2, redactT_exact t h]
  exact (blank_blank t).1 h

/-! ### `Redact` is idempotent on *arbitrary* token lists -/

theorem redactAux_plain (a0 p : List Tok) (hp : ∀ x ∈ p, x.isMarker = false) (rest : List Tok) :
    redactAux (some a0) (p ++ rest) = redactAux (some (p.reverse ++ a0)) rest := by
  induction p generalizing a0 with
  | nil => simp
  | cons x r ih =>
    cases x with
    | b y => simp [redactAux, ih _ (fun x hx => hp x (by simp [hx]))]
    | s => exact absurd (hp .s (by simp)) (by decide)
    | e => exact absurd (hp .e (by simp)) (by decide)

/-- The general statement carried through the induction: whatever candidate
match is pending (with plain tokens accumulated), re-redacting the output
reproduces it. -/
theorem redactAux_idem (t : List Tok) :
    redactAux none (redactAux none t) = redactAux none t ∧
    (∀ acc, (∀ x ∈ acc, x.isMarker = false) → redactAux none (redactAux (some acc) t) = redactAux (some acc) t) := by
  -- reading a flushed candidate `acc.reverse` again collects `acc`
  have flush : ∀ acc X, (∀ x ∈ acc, x.isMarker = false) →
      redactAux (some []) (acc.reverse ++ X) = redactAux (some acc) X := fun acc X hacc => by
    simpa using redactAux_plain [] acc.reverse (fun x hx => hacc x (List.mem_reverse.1 hx)) X
  induction t with
  | nil => exact ⟨rfl, fun acc hacc => by simpa [redactAux] using flush acc [] hacc⟩
  | cons x r ih =>
    constructor
    · cases x with
      | s => exact ih.2 [] (by simp)
      | e => simp [redactAux, ih.1]
      | b y => simp [redactAux, ih.1]
    · intro acc hacc
      cases x with
      | b y => exact ih.2 _ (List.forall_mem_cons.2 ⟨rfl, hacc⟩)
      | e => simp [redactAux, crossT, ih.1]
      | s =>
        -- the flushed candidate is followed by the output of the next candidate, which starts with `s`
        obtain ⟨X, hX⟩ := redactAux_some_head [] r
        have h2 := ih.2 [] (by simp)
        simp only [redactAux, hX] at h2 ⊢
        rw [flush acc _ hacc]
        simp [redactAux, h2]

/-- **`Redact` is idempotent on every string, even ill-formed ones.** -/
theorem redactT_idem (t : List Tok) : redactT (redactT t) = redactT t := (redactAux_idem t).1

/-- `StripMarkers` removes every delimiter… -/
theorem stripT_no_marker (t : List Tok) : ∀ x ∈ stripT t, x.isMarker = false := by
  induction t with
  | nil => simp [stripT]
  | cons y r ih => cases y <;> simp [stripT, Tok.isMarker] <;> exact ih

/-- …and nothing else: the plain tokens are kept, in order. -/
theorem stripT_eq_filter (t : List Tok) : stripT t = t.filter (fun x => !x.isMarker) := by
  induction t with
  | nil => simp [stripT]
  | cons y r ih => cases y <;> simp [stripT, Tok.isMarker, ih]

theorem stripT_idem (t : List Tok) : stripT (stripT t) = stripT t := by
  induction t with
  | nil => simp [stripT]
  | cons y r ih => cases y <;> simp [stripT, ih]

/-- Known finding D4 as a theorem about the model (which the correspondence
ties to the regexp-based Go code): on an ill-formed input with partial-marker
bytes around a delimiter, removing exactly the delimiters re-assembles a marker. -/
theorem strip_can_reassemble_marker :
    stripMarkers ([0xE2] ++ startB ++ [0x80, 0xB9]) = startB := by decide

theorem redactT_append_wf (a b : List Tok) (ha : WF a) : redactT (a ++ b) = redactT a ++ redactT b := by
  refine (scanWF_induction (C := fun a => redactAux none (a ++ b) = redactAux none a ++ redactAux none b)
    (O := fun a => ∀ acc, redactAux (some acc) (a ++ b) = redactAux (some acc) a ++ redactAux none b)
    rfl (fun r h => h []) ?_ ?_ (fun x r h acc => h _) a).1 ha <;> intros <;> simp [redactAux, *]

/-! Non-vacuity -/
example : WF (tokenize ([0x61] ++ startB ++ [0x62, 0x0A] ++ endB ++ [0x63])) := by decide
example : redact ([0x61] ++ startB ++ [0x62, 0x0A] ++ endB ++ [0x63]) = [0x61] ++ redactedB ++ [0x63] := by decide
example : redact (startB ++ [0x61] ++ startB ++ [0x62] ++ endB ++ endB) = startB ++ [0x61] ++ redactedB ++ endB := by decide

/-! ### At the level of byte strings

The theorems above are about token lists; the library's functions take and return byte strings
(`redact l = untok (redactT (tokenize l))`). They compose on strings because the token reading of `Redact(l)` *is*
`redactT (tokenize l)` (`tokenize_redact`, Proofs/Canon.lean: token readings are canonical and `redactT` keeps them
so). `StripMarkers` does not have this property: that is known finding D4 (`strip_can_reassemble_marker`). -/

/-- **Redact is idempotent on every byte string**, well-formed or not. -/
theorem redact_idem (l : List Byte) : redact (redact l) = redact l := by
  show untok (redactT (tokenize (redact l))) = untok (redactT (tokenize l))
  rw [tokenize_redact, redactT_idem]

/-- On a well-formed string the result of `Redact` is well-formed, has the same safe text and as many envelopes. -/
theorem redact_wf (l : List Byte) (h : WF (tokenize l)) : WF (tokenize (redact l)) := by
  rw [tokenize_redact]; exact redactT_wf _ h

theorem redact_same_safe_text (l : List Byte) (h : WF (tokenize l)) :
    outside false (tokenize (redact l)) = outside false (tokenize l) := by
  rw [tokenize_redact]; exact redactT_same_safe_text _ h

theorem redact_count (l : List Byte) (h : WF (tokenize l)) : countS (tokenize (redact l)) = countS (tokenize l) := by
  rw [tokenize_redact]; exact redactT_count _ h

/-- … and is exactly the string with every envelope's content replaced by the cross. -/
theorem redact_exact (l : List Byte) (h : WF (tokenize l)) : tokenize (redact l) = blank false (tokenize l) := by
  rw [tokenize_redact]; exact redactT_exact _ h

example : redact (redact ([0xE2] ++ startB ++ [0x80, 0xB9] ++ endB)) = redact ([0xE2] ++ startB ++ [0x80, 0xB9] ++ endB) := redact_idem _

/-! ### On the functions as the translator reads them off `internal/markers/markers.go` on every run
(equality with the model: Props/TransMarkers.lean) -/

/-- `Redact()` read at token level is `redactT` — the function the theorems above are about. -/
theorem translated_redact_tokens (s : List Byte) : Trans.MS_Redact s = untok (redactT (tokenize s)) := by
  rw [ms_redact]; rfl

/-- `StripMarkers()` removes exactly the delimiters of the token reading. -/
theorem translated_strip_tokens (s : List Byte) : Trans.MS_StripMarkers s = untok ((tokenize s).filter (fun x => !x.isMarker)) := by
  rw [ms_stripMarkers, ← stripT_eq_filter]; rfl

/-- `Redact()` as read off the source is idempotent on every string. -/
theorem translated_redact_idem (s : List Byte) : Trans.MS_Redact (Trans.MS_Redact s) = Trans.MS_Redact s := by
  simp only [ms_redact]; exact redact_idem s

example : Trans.MS_Redact ([0x61] ++ startB ++ [0x62, 0x0A] ++ endB ++ [0x63]) = [0x61] ++ redactedB ++ [0x63] := by decide

end Redact
