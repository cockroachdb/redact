import RedactVerif.Props.TransBuffer
import RedactVerif.Model.Writer
/-
The tie for `builder/builder.go` by translation: the StringBuilder's SafeWriter methods that do not
go through the printer, as read off /repo on every run (`Trans.SB_*`), compute what the model's
`builderOps` (Model/Writer.lean — the alphabet of C09's call sequences) says: select the mode, then
delegate to the buffer. `Print`, `Printf`, `SafeInt`, `SafeUint`, `SafeFloat` call `rfmt.Fprint*` on the
embedded buffer and are not translated (their call lists are extracted: Props/FactsSkelWriters.lean).
-/
namespace Redact

/-- `setMode_translated` at the numeric values of the mode constants, as the translated code has them. -/
theorem setMode_zero_translated (b : Buffer) : Trans.SetMode (conc b) 0 = conc (b.setMode .unsafeEsc) :=
  setMode_translated b .unsafeEsc

theorem setMode_one_translated (b : Buffer) : Trans.SetMode (conc b) 1 = conc (b.setMode .safeEsc) :=
  setMode_translated b .safeEsc

theorem sb_safeString (b : Buffer) (s : List Byte) :
    Trans.SB_SafeString (conc b) s = conc (b.run (builderOps (.safeString s))) := by
  simp only [Trans.SB_SafeString, Id.run, setMode_one_translated, writeString_translated]
  rfl

theorem sb_safeBytes (b : Buffer) (s : List Byte) :
    Trans.SB_SafeBytes (conc b) s = conc (b.run (builderOps (.safeString s))) := by
  simp only [Trans.SB_SafeBytes, Id.run, setMode_one_translated, write_translated]
  rfl

theorem sb_safeByte (b : Buffer) (x : Byte) :
    Trans.SB_SafeByte (conc b) x = conc (b.run (builderOps (.safeByte x))) := by
  simp only [Trans.SB_SafeByte, Id.run, setMode_one_translated, writeByte_translated]
  rfl

theorem sb_safeRune (b : Buffer) (r : Int) :
    Trans.SB_SafeRune (conc b) r = conc (b.run (builderOps (.safeRune r))) := by
  simp only [Trans.SB_SafeRune, Id.run, setMode_one_translated, writeRune_translated]
  rfl

theorem sb_unsafeString (b : Buffer) (s : List Byte) :
    Trans.SB_UnsafeString (conc b) s = conc (b.run (builderOps (.unsafeString s))) := by
  simp only [Trans.SB_UnsafeString, Id.run, setMode_zero_translated, writeString_translated]
  rfl

theorem sb_unsafeBytes (b : Buffer) (s : List Byte) :
    Trans.SB_UnsafeBytes (conc b) s = conc (b.run (builderOps (.unsafeString s))) := by
  simp only [Trans.SB_UnsafeBytes, Id.run, setMode_zero_translated, write_translated]
  rfl

theorem sb_unsafeByte (b : Buffer) (x : Byte) :
    Trans.SB_UnsafeByte (conc b) x = conc (b.run (builderOps (.unsafeByte x))) := by
  simp only [Trans.SB_UnsafeByte, Id.run, setMode_zero_translated, writeByte_translated]
  rfl

theorem sb_unsafeRune (b : Buffer) (r : Int) :
    Trans.SB_UnsafeRune (conc b) r = conc (b.run (builderOps (.unsafeRune r))) := by
  simp only [Trans.SB_UnsafeRune, Id.run, setMode_zero_translated, writeRune_translated]
  rfl

/-- The io.Writer / io.StringWriter / io.ByteWriter side of the builder is unsafe. -/
theorem sb_write (b : Buffer) (s : List Byte) :
    (Trans.SB_Write (conc b) s).1 = conc (b.run (builderOps (.unsafeString s))) ∧
    (Trans.SB_WriteString (conc b) s).1 = conc (b.run (builderOps (.unsafeString s))) := by
  constructor
  · simp only [Trans.SB_Write, Id.run, setMode_zero_translated, write_translated]; rfl
  · simp only [Trans.SB_WriteString, Id.run, setMode_zero_translated, writeString_translated]; rfl

theorem sb_writeByte (b : Buffer) (x : Byte) :
    (Trans.SB_WriteByte (conc b) x).1 = conc (b.run (builderOps (.unsafeByte x))) := by
  simp only [Trans.SB_WriteByte, Id.run, setMode_zero_translated, writeByte_translated]; rfl

theorem sb_writeRune (b : Buffer) (r : Int) :
    (Trans.SB_WriteRune (conc b) r).1 = conc (b.run (builderOps (.unsafeRune r))) := by
  simp only [Trans.SB_WriteRune, Id.run, setMode_zero_translated, writeRune_translated]; rfl

end Redact
