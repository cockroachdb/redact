import RedactVerif.Props.TransPP
import RedactVerif.Props.L2
import RedactVerif.Props.FactsClassify
import RedactVerif.Proofs.U.Top
import RedactVerif.Proofs.S.Top
import RedactVerif.Props.FactsSkelPrinter
import RedactVerif.Props.C04
/-
C06 — Unsafe(x) envelopes all of x; Safe(x) envelopes none; outermost wins.

Proved, as statements about the dispatch logic of the model (which is tied to
print.go / helpers.go byte for byte by the P-model correspondence):
* outermost wins: once an override is active, `startSafeOverride` /
  `startUnsafeOverride` change nothing (`outermost_wins`), so an inner wrapper
  has no effect (`inner_wrapper_inert`);
* under `Unsafe(..)` the redact-specific dispatch is skipped — SafeFormatter,
  SafeMessager and the error hook are not called (`unsafe_skips_redact_dispatch`) —
  and a RedactableString/Bytes is written as ordinary unsafe data, not raw
  (`unsafe_redactable_not_raw`);
* `doPrint/doPrintf` do not leave unsafe mode under `overrideUnsafe` (`doPrint_keeps_unsafe`); nested
  printers inherit the override by the definition of `runScript` (Model/Printer.lean) — the D3 fix.

END TO END (proved, for every value of the model's universe, every user method script,
every verb, every fuel — `Proofs/U`, `Proofs/S`: the induction of the frame theorem over the 21
functions of the printer, repeated under each override):
* `unsafe_operand_enveloped` / `sprint_unsafe_all_enveloped` / `sprintf_unsafe_all_enveloped` (`Sprintf("%c", Unsafe(x))` for every lower-case verb `c`): printing `Unsafe(x)` adds nothing
  but line feeds outside envelopes — also when `x` contains safe values, `Safe(…)`,
  redactable strings, SafeFormatters, formatters, errors, panicking methods;
* `safe_operand_no_envelope` / `sprint_safe_no_marker` / `sprintf_safe_no_marker`: printing `Safe(x)`, for `x` without a
  redactable operand, opens no envelope and leaves every earlier envelope as it was; the
  output of `Sprint(Safe(x))` contains no marker at all.
"The characters are those fmt prints for x": proved on the model, for `x` without redact-specific
dispatch (`unsafe_chars_are_plain`, `safe_chars_are_plain`, `plain_wrappers_inert`, at the end of
this file): stripped of markers the output is the text of the unclassified run. NOT proved: that the
unclassified run is Go's fmt — decided by the real-code oracle P-wrappers (and C04's differential
check) on generated cases.
-/
namespace Redact

theorem outermost_wins (p : PP) (h : p.override ≠ .no) :
    p.startSafeOverride.1 = p ∧ p.startUnsafeOverride.1 = p := by
  simp [PP.startSafeOverride, PP.startUnsafeOverride, h]

/-- What a deferred `restore()` does to a result: on return the mode and override are put back;
while a panic unwinds, the mode is. -/
def Res.restored (r : Res) (m : Mode) (ov : Override) : Res :=
  match r with
  | .ok q => .ok (q.restore ⟨m, ov⟩)
  | .panic b pl => .panic (b.setMode m) pl
  | x => x

/-- Under an active override, `Safe(v)` / `Unsafe(v)` print exactly like `v`
(the restorer re-sets the mode it found, which is a no-op on the result's frame). -/
theorem inner_wrapper_inert (env : Env) (n : Nat) (p : PP) (v : Val) (verb : Nat) (h : p.override ≠ .no) :
    printArg env (n + 1) p (.safeW v) verb = (printArg env n p v verb).restored p.buf.mode p.override ∧
    printArg env (n + 1) p (.unsafeW v) verb = (printArg env n p v verb).restored p.buf.mode p.override := by
  simp only [printArg, bracket, PP.startSafeOverride, PP.startUnsafeOverride, h, Res.restored, if_false]
  constructor <;> (cases printArg env n p v verb <;> rfl)

/-- Under `overrideUnsafe`, whether the value is a SafeFormatter or a SafeMessager
is irrelevant: those dispatches are skipped (the error hook likewise, see C17). -/
theorem unsafe_skips_redact_dispatch (env : Env) (n : Nat) (p : PP) (arg : Val) (ms : Methods) (nr : Bool)
    (ret : Nat) (sc : Script) (verb : Nat) (h : p.override = .ovUnsafe) :
    methDispatch env (n + 1) p arg ms nr ret sc verb =
      methDispatch env (n + 1) p arg { ms with safeFormatter := false, safeMessager := false } nr ret sc verb := by
  simp [methDispatch, h]

/-- Under `overrideUnsafe` a RedactableString/Bytes operand is *not* copied raw:
it is written like any other unsafe data (and so escaped and enveloped). -/
theorem unsafe_redactable_not_raw (p : PP) (content : List Byte) (h : p.override = .ovUnsafe) :
    bracket PP.startPreRedactable p (fun q => .ok (q.w content)) =
      .ok ((p.w content).restore ⟨p.buf.mode, p.override⟩) := by
  simp [bracket, PP.startPreRedactable, h]

/-- `doPrint`/`doPrintf` leave the mode alone under `overrideUnsafe` (D3 fix). -/
theorem doPrint_keeps_unsafe (env : Env) (n : Nat) (p : PP) (args : List Val) (h : p.override = .ovUnsafe) :
    doPrint env (n + 1) p args = doPrintLoop env n p args 0 false := by
  simp [doPrint, h]

/-- **`Unsafe(x)` as an operand**: from a printer without override, in safe mode, whose text so
far does not end in a truncated character, printing `Unsafe(x)` returns with the buffer closed
and fully validated, and outside envelopes only line feeds were added (`fT` reads the text outside
envelopes of a fully validated buffer; `finalize` is what the output would have been without the operand). -/
theorem unsafe_operand_enveloped (env : Env) (he : EnvOk env) (n : Nat) (p : PP) (v : Val) (verb : Nat)
    (hp : Pre p) (ho : p.override = .no) (hm : p.buf.mode ≠ .unsafeEsc)
    (hT : tailBad p.buf.finalize.buf = false) (hv : ValOk v) (q : PP)
    (h : printArg env (n + 1) p (.unsafeW v) verb = .ok q) :
    q.buf.validUntil = q.buf.buf.length ∧ q.buf.markerOpen = false ∧
      ∃ l, OnlyLFs l ∧ U.fT q.buf = U.fT p.buf.finalize ++ l :=
  (U.unsafe_operand env he n p v verb hp ho hm hT hv q h).2.2.2

theorem listOk_unsafeW {v : Val} (hv : ValOk v) : ListOk [.unsafeW v] :=
  fun x hx => by simp only [List.mem_singleton] at hx; subst hx; simpa [ValOk] using hv

/-- On a well-formed output, dropping the envelopes leaves the text outside envelopes. -/
theorem dropEnvT_of_obtainable {l : List Byte} (h : Obtainable l) :
    dropEnvT (tokenize l) = safeText (evT (tokenize l)) :=
  (dropEnv_eq_safeText _).1 (scanWF_of_scan _ _ _ h.2)

/-- **`Sprint(Unsafe(x))`: dropping the envelopes of the output leaves line feeds only.** -/
theorem sprint_unsafe_all_enveloped (env : Env) (he : EnvOk env) (v : Val) (hv : ValOk v) (q : PP)
    (h : sprint env [.unsafeW v] = .ok q) :
    ∀ t ∈ dropEnvT (tokenize q.buf.redactableBytes), t = .b LF := by
  rw [dropEnvT_of_obtainable (doPrint_out env he defaultFuel newPP pre_newPP _ (listOk_unsafeW hv) q h).1]
  exact U.sprint_unsafe_enveloped env he v hv defaultFuel q h

/-- **`Safe(x)` as an operand** (`x` without a redactable operand, `S.ValOk`): the validated prefix
of the buffer — every envelope written so far — is untouched, and the printer is back in safe mode. -/
theorem safe_operand_no_envelope (env : Env) (he : S.EnvOk env) (n : Nat) (p : PP) (v : Val) (verb : Nat)
    (hp : Pre p) (ho : p.override = .no) (hm : p.buf.mode = .safeEsc) (hv : S.ValOk v) (q : PP)
    (h : printArg env (n + 1) p (.safeW v) verb = .ok q) :
    q.buf.mode = .safeEsc ∧ q.override = .no ∧ q.buf.pre = p.buf.pre :=
  (S.safe_operand env he n p v verb hp ho hm hv q h).2

/-- **`Sprint(Safe(x))` contains no marker.** -/
theorem sprint_safe_no_marker (env : Env) (he : S.EnvOk env) (v : Val) (hv : S.ValOk v) (q : PP)
    (h : sprint env [.safeW v] = .ok q) :
    ∀ t ∈ tokenize q.buf.redactableBytes, t.isMarker = false :=
  S.sprint_safe_no_envelope env he v hv defaultFuel q h

/-- The empty buffer in safe mode: what `doPrint`/`doPrintf` make of a fresh printer's buffer. -/
def emptySafe : Buffer := { buf := [], validUntil := 0, mode := .safeEsc, markerOpen := false }

theorem emptySafe_eq : Buffer.init.setMode .safeEsc = emptySafe := by decide

theorem pre_of_emptySafe {p : PP} (e : p.buf = emptySafe) : Pre p := by
  unfold Pre; rw [e]
  exact ⟨emptySafe_eq ▸ inv_setMode _ _ inv_init, by decide⟩

/-- `Unsafe(x)` as the only thing printed into an empty buffer, under any verb and any flags:
the finished output has nothing but line feeds outside envelopes. -/
theorem only_operand_enveloped (env : Env) (he : EnvOk env) (k : Nat) (p1 : PP) (e1 : p1.buf = emptySafe)
    (ho : p1.override = .no) (v : Val) (hv : ValOk v) (verb : Nat) (q' : PP)
    (hr : printArg env (k + 1) p1 (.unsafeW v) verb = .ok q') :
    OnlyLFs (safeText (evT (tokenize q'.buf.redactableBytes))) := by
  have hfin : p1.buf.finalize.buf = [] := by rw [e1]; decide
  have ⟨i, m, _, vv, oo, l, ol, el⟩ := U.unsafe_operand env he k p1 v verb (pre_of_emptySafe e1) ho
    (by rw [e1]; decide) (by rw [hfin]; decide) hv q' hr
  have hsc : scan (tokenize q'.buf.buf) = some false := by have := i.sc; rwa [pre_of_full vv, oo] at this
  have hl : OnlyLFs (safeText (evT (tokenize q'.buf.buf))) := by
    change OnlyLFs (U.fT q'.buf); rw [el]; unfold U.fT; rw [hfin]; exact ol
  -- the buffer is fully validated and its text ends in a complete character: finishing adds nothing
  rw [(C04.finish_safe i (by rw [m, e1]; rfl)).2, pre_of_full vv, suf_of_full vv, U.tail_of_onlyLFs _ hsc hl]
  simpa [escT] using hl

/-- `Sprintf("%c", a)` for a lower-case verb `c` is one call of `printArg`, on a printer without
override whose buffer is the empty safe buffer; its buffer is the output. -/
theorem sprintf_single_verb (env : Env) (a : Val) (c : Byte) (hc : 0x61 ≤ c ∧ c ≤ 0x7A) (q : PP)
    (h : sprintf env [0x25, c] [a] = .ok q) :
    ∃ k P q', P.buf = emptySafe ∧ P.override = .no ∧
      printArg env (k + 1) P a c.toNat = .ok q' ∧ q.buf = q'.buf := by
  -- a lower-case letter is none of the flag characters `#0+- `
  have hne : c ≠ 0x23 ∧ c ≠ 0x30 ∧ c ≠ 0x2B ∧ c ≠ 0x2D ∧ c ≠ 0x20 := by
    have h1 := hc.1
    refine ⟨?_, ?_, ?_, ?_, ?_⟩ <;> (intro heq; rw [heq] at h1; exact absurd h1 (by decide))
  have hpf : parseFlags true {} [c] = ({}, [c]) := by
    rw [parseFlags]; simp [hne.1, hne.2.1, hne.2.2.1, hne.2.2.2.1, hne.2.2.2.2]
  have e : defaultFuel = 99994 + 6 := rfl
  unfold sprintf at h
  rw [e] at h
  have ho : newPP.override ≠ .ovUnsafe := by decide
  rw [doPrintf] at h
  simp only [ho, if_true, ne_eq, not_false_eq_true] at h
  rw [fmtLoop] at h
  simp only [List.takeWhile, List.dropWhile, ne_eq, decide_not, decide_true, Bool.not_true, List.isEmpty_nil, if_true,
    hpf, hc.1, hc.2, and_self, List.length_singleton, Nat.lt_one_iff] at h
  simp only [List.getElem?_cons_zero] at h
  -- the printer handed to printArg: flags set from the directive, buffer = the empty safe buffer
  generalize hP : (if c = 0x76 then _ else _ : PP) = P at h
  have eP : P.buf = emptySafe ∧ P.override = .no := by
    rw [← hP]; split <;> exact ⟨emptySafe_eq, rfl⟩
  cases hr : printArg env (99994 + 4) P a c.toNat with
  | ok q' =>
    rw [hr] at h
    simp only [Res.bind] at h
    rw [fmtLoop] at h
    simp only [List.takeWhile, List.dropWhile, List.isEmpty_nil, if_true] at h
    rw [finishPrintf] at h
    simp only [List.length_singleton, Nat.zero_add, Nat.lt_irrefl, and_false, if_false, Res.ok.injEq] at h
    exact ⟨_, P, q', eP.1, eP.2, hr, by rw [← h]⟩
  | panic b pl => rw [hr] at h; simp [Res.bind] at h
  | fuel => rw [hr] at h; simp [Res.bind] at h
  | unsupported => rw [hr] at h; simp [Res.bind] at h

/-- **`Sprintf("%c", Unsafe(x))`, for every lower-case verb `c`** (`%v`, `%s`, `%d`, `%x`, `%q`, …,
also the bad ones): dropping the envelopes of the output leaves line feeds only. -/
theorem sprintf_unsafe_all_enveloped (env : Env) (he : EnvOk env) (v : Val) (hv : ValOk v) (c : Byte)
    (hc : 0x61 ≤ c ∧ c ≤ 0x7A) (q : PP) (h : sprintf env [0x25, c] [.unsafeW v] = .ok q) :
    ∀ t ∈ dropEnvT (tokenize q.buf.redactableBytes), t = .b LF := by
  have ⟨k, P, q', e1, ho, hr, hb⟩ := sprintf_single_verb env _ c hc q h
  rw [dropEnvT_of_obtainable (doPrintf_out env he defaultFuel newPP pre_newPP _ _ (listOk_unsafeW hv) q h).1, hb]
  exact only_operand_enveloped env he k P e1 ho v hv c.toNat q' hr

/-- `Safe(x)` as the only thing printed into an empty buffer, under any verb and any flags: no marker in the output. -/
theorem only_operand_no_marker (env : Env) (he : S.EnvOk env) (k : Nat) (p1 : PP) (e1 : p1.buf = emptySafe)
    (ho : p1.override = .no) (v : Val) (hv : S.ValOk v) (verb : Nat) (q' : PP)
    (hr : printArg env (k + 1) p1 (.safeW v) verb = .ok q') :
    ∀ t ∈ tokenize q'.buf.redactableBytes, t.isMarker = false := by
  have ⟨i, m, _, hpre⟩ := S.safe_operand env he k p1 v verb (pre_of_emptySafe e1) ho (by rw [e1]; rfl) hv q' hr
  have hpre0 : q'.buf.pre = [] := by rw [hpre, e1]; rfl
  -- nothing is validated yet: the output is the escaped pending text, plus `?` after a truncated character
  rw [(C04.finish_safe i m).2, hpre0]
  intro t ht
  simp only [tokenize_nil, List.nil_append, List.mem_append] at ht
  rcases ht with ht | ht
  · exact escT_no_marker _ t ht
  · split at ht <;> simp_all [Tok.isMarker]

/-- **`Sprintf("%c", Safe(x))`, for every lower-case verb `c`** (`x` without a redactable operand): no marker in the output. -/
theorem sprintf_safe_no_marker (env : Env) (he : S.EnvOk env) (v : Val) (hv : S.ValOk v) (c : Byte)
    (hc : 0x61 ≤ c ∧ c ≤ 0x7A) (q : PP) (h : sprintf env [0x25, c] [.safeW v] = .ok q) :
    ∀ t ∈ tokenize q.buf.redactableBytes, t.isMarker = false := by
  have ⟨k, P, q', e1, ho, hr, hb⟩ := sprintf_single_verb env _ c hc q h
  rw [hb]
  exact only_operand_no_marker env he k P e1 ho v hv c.toNat q' hr

/-! Premises satisfiable: a `Safe(string)` inside `Unsafe(…)`, and an `Unsafe(Safe(string))` inside `Safe(…)`.
(The model prints `Unsafe(Safe("a\nb"))` as `‹a›\n‹b›` and `Safe(Unsafe(Safe("a\nb")))` as `a\nb`, by evaluation.) -/
def exEnv6 : Env := { render := fun _ _ => some [0x61, 0x0A, 0x62], hook := none }
def exV6 : Val := .safeW (.leaf 0 .str ([0x73, 0x74, 0x72, 0x69, 0x6E, 0x67] /- "string" -/ : List UInt8) none false false)
example : EnvOk exEnv6 ∧ S.EnvOk exEnv6 ∧ ValOk exV6 ∧ S.ValOk (.unsafeW exV6) := by
  refine ⟨?_, ?_, ?_, ?_⟩
  · intro h hh; cases hh
  · intro h hh; cases hh
  · simp [exV6, ValOk]
  · simp [exV6, S.ValOk]

/-! ### "In both cases the characters are those fmt prints for x" (on the model)

For `x` without redact-specific dispatch of its own (no SafeFormatter / SafeMessager / redactable
inside, no error hook; anything else: wrappers nested at any depth, Stringers, errors, Formatters
calling back into the printer, panicking methods, containers), the output of `Sprint(Unsafe(x))` and of
`Sprint(Safe(x))`, with markers stripped, is the text of the unclassified run (section 17 of
DESIGN.md) with its markers replaced by `?` — the same text for both wrappers and for `x` itself —
and each call panics exactly when that run does. Together with the envelope theorems above
(`sprint_unsafe_all_enveloped`, `sprint_safe_no_marker`) this is C06's statement on the model. -/

theorem single_chars_are_plain (env : Env) (he : ErU.EnvE env) (hs : S.EnvOk env) (v : Val)
    (hx : ErU.ValE v) (ho : S.ValOk v) : C04.SameText (sprint env [v]) (plainSprint env [v]) :=
  C04.sprint_wrapped_strip_eq_plain env he hs [v]
    (fun w hw => by simp only [List.mem_singleton] at hw; subst hw; exact hx)
    (fun w hw => by simp only [List.mem_singleton] at hw; subst hw; exact ho)

theorem unsafe_chars_are_plain (env : Env) (he : ErU.EnvE env) (hs : S.EnvOk env) (x : Val)
    (hx : ErU.ValE x) (ho : S.ValOk x) :
    C04.SameText (sprint env [.unsafeW x]) (plainSprint env [.unsafeW x]) :=
  single_chars_are_plain env he hs _ hx ho

theorem safe_chars_are_plain (env : Env) (he : ErU.EnvE env) (hs : S.EnvOk env) (x : Val)
    (hx : ErU.ValE x) (ho : S.ValOk x) :
    C04.SameText (sprint env [.safeW x]) (plainSprint env [.safeW x]) :=
  single_chars_are_plain env he hs _ hx ho

/-- In the unclassified run the wrappers are inert: printing `Unsafe(x)` or `Safe(x)` is printing `x`
(one unit of fuel apart: the wrapper's own call). -/
theorem plain_wrappers_inert (env : Env) (hs : S.EnvOk env) (n : Nat) (p : PP) (hp : S.Pre p) (x : Val) (ho : S.ValOk x) (verb : Nat) :
    printArg env (n + 1) p (.unsafeW x) verb = printArg env n p x verb ∧
    printArg env (n + 1) p (.safeW x) verb = printArg env n p x verb := by
  -- the unclassified run is under the safe override, so `inner_wrapper_inert` applies; what is left
  -- of the wrapper is its restorer, which puts back the mode and override the result already has
  have key : (printArg env n p x verb).restored p.buf.mode p.override = printArg env n p x verb := by
    have hS := (S.spec_all env hs n).printArg p x verb hp ho
    generalize printArg env n p x verb = r at hS ⊢
    cases r with
    | ok q =>
      have g := hS.1 q rfl
      have hm : q.buf.setMode p.buf.mode = q.buf := setMode_same _ _ (by rw [g.1.mode, hp.2.1])
      simp only [Res.restored, PP.restore, hm, ← g.2]
    | panic b pl =>
      have g := hS.2 b pl rfl
      have hm : b.setMode p.buf.mode = b := setMode_same _ _ (by rw [g.1.mode, hp.2.1])
      simp only [Res.restored, hm]
    | fuel => rfl
    | unsupported => rfl
  have ⟨h1, h2⟩ := inner_wrapper_inert env n p x verb (by rw [hp.2.2]; decide)
  exact ⟨h2.trans key, h1.trans key⟩

/-! Premises satisfiable: a slice holding a `Safe(string)` and a Stringer that panics with an `Unsafe(string)`;
the oracle renders every leaf as `a‹b`. -/
def exStrL : Val := .leaf 0 .str ([0x73, 0x74, 0x72, 0x69, 0x6E, 0x67] /- "string" -/ : List UInt8) none false false
def exX : Val :=
  .slice ([0x5B, 0x5D, 0x61] /- "[]a" -/ : List UInt8) false true
    (.cons (.safeW exStrL)
      (.cons (.meth { stringer := true } ([0x6D, 0x2E, 0x53] /- "m.S" -/ : List UInt8) false false false 1 (.panic (.unsafeW exStrL)) exStrL) .nil))
def exEnvU : Env := { render := fun _ _ => some [0x61, 0xE2, 0x80, 0xB9, 0x62], hook := none }

example : ErU.EnvE exEnvU ∧ S.EnvOk exEnvU ∧ ErU.ValE exX ∧ S.ValOk exX := by
  have ha : ∀ (l : List Byte), l.all (· < 0x80) = true → Asc l := fun l h => asc_of_all h
  refine ⟨⟨?_, rfl⟩, ?_, ?_, ?_⟩
  · intro id d s hs
    simp only [exEnvU, Option.some.injEq] at hs
    subst hs
    exact Or.inr ⟨[0x61, 0xE2, 0x80, 0xB9], [0x62], rfl, by decide⟩
  · intro h hh; cases hh
  · simp only [exX, ErU.ValE, ErU.ValsE, ErU.ScriptE, exStrL]
    refine ⟨ha _ (by decide), ha _ (by decide), ⟨⟨ha _ (by decide), ?_, ?_⟩, ha _ (by decide), ha _ (by decide)⟩, trivial⟩ <;> simp
  · simp [exX, S.ValOk, S.ValsOk, S.ScriptOk, exStrL]

end Redact
