import RedactVerif.Generated.Facts
import RedactVerif.Model.Printer
/-
Regenerated facts, part 2: the classification skeleton of `internal/rfmt/print.go`
the printer model mirrors — the verb tables of the leaf formatters, which
functions bracket their writes with `startUnsafe`, that every `start*()` call is
a deferred `…restore()`, and the verbs under which a SafeMessager's text is
printed under the safe override (D10).
-/
namespace Redact

theorem gen_verbs_bool : ∀ v, verbOkFor .bool v = true ↔ v ∈ Gen.verbsBool := by
  intro v; simp [verbOkFor, Gen.verbsBool]
theorem gen_verbs_sint : ∀ v, verbOkFor .sint v = true ↔ v ∈ Gen.verbsInteger := by
  intro v; simp [verbOkFor, Gen.verbsInteger]; exact Iff.of_eq (by ac_rfl)
theorem gen_verbs_uint : ∀ v, verbOkFor .uint v = true ↔ v ∈ Gen.verbsInteger := by
  intro v; simp [verbOkFor, Gen.verbsInteger]; exact Iff.of_eq (by ac_rfl)
theorem gen_verbs_float : ∀ v, verbOkFor .float v = true ↔ v ∈ Gen.verbsFloat := by
  intro v; simp [verbOkFor, Gen.verbsFloat]; exact Iff.of_eq (by ac_rfl)
theorem gen_verbs_str : ∀ v, verbOkFor .str v = true ↔ v ∈ Gen.verbsString := by
  intro v; simp [verbOkFor, Gen.verbsString]; exact Iff.of_eq (by ac_rfl)
theorem gen_verbs_ptr : ∀ v, verbOkFor .ptr v = true ↔ v ∈ Gen.verbsPointer := by
  intro v; simp [verbOkFor, Gen.verbsPointer]; exact Iff.of_eq (by ac_rfl)

/-- D10: the safe override around a SafeMessager's text is conditional, on exactly the verbs
`fmtString` accepts. -/
theorem gen_safeMessager : Gen.safeMessagerOverrideUnconditional = false ∧
    ∀ v, verbOkFor .str v = true ↔ v ∈ Gen.verbsSafeMessagerOverride := by
  refine ⟨by decide, ?_⟩
  intro v; simp [verbOkFor, Gen.verbsSafeMessagerOverride]; exact Iff.of_eq (by ac_rfl)

/-- Every `start*()` is the operand of a deferred `restore()` (the bracket pattern of the model),
and every leaf formatter and both `fmt.State` write methods switch to unsafe mode. -/
theorem gen_brackets : Gen.startCallsNotDeferred = [] ∧
    ∀ s ∈ ["fmtBool", "fmt0x64", "fmtInteger", "fmtFloat", "fmtString", "fmtBytes", "fmtPointer", "Write", "WriteString",
           "UnsafeString", "UnsafeBytes", "UnsafeByte", "UnsafeRune"], s ∈ Gen.unsafeSites := by decide

/-- Only the recognised places start an override or raw mode. -/
theorem gen_override_sites :
    Gen.unsafeOverrideSites = ["handleSpecialValues", "printArg"] ∧
    Gen.preRedactableSites = ["handleSpecialValues", "printArg"] ∧
    Gen.safeOverrideSites = ["SafeByte", "SafeBytes", "SafeFloat", "SafeInt", "SafeRune", "SafeString", "SafeUint",
      "handleMethods", "handleSpecialValues", "printArg", "printValue"] := ⟨rfl, rfl, rfl⟩

/-! ### G4: the decisions of `handleMethods`, `printArg` and `catchPanic`, in source order

The model's `handleMethods`/`methDispatch`, the prologue of `printArg`/`printSlot` and `catchPanic`
mirror these decision lists (if-conditions, type switches with their case types, verb switches,
type assertions, deferred calls, returns). They are extracted from print.go on every run; a change
of the order of dispatch, of a guard, of the verbs of a case, or of what is deferred where, breaks
these equalities before any input is run. -/

def expectHandleMethods : List String := [
   "if p.erroring", "return", "fi", "if verb == 'w'", "assert error",
   "if !ok || !p.wrapErrs || p.wrappedErr != nil", "return true", "fi", "fi",
   "if p.override != overrideUnsafe", "typeswitch", "case i.SafeFormatter", "defer p.catchPanic", "return",
   "case i.SafeMessager", "defer p.catchPanic", "switch verb", "case 'v','s','x','X','q'",
   "defer p.startSafeOverride().restore", "end", "return", "case error", "if redactErrorFn != nil",
   "defer p.catchPanic", "return", "fi", "end", "fi", "assert Formatter", "if ok", "defer p.catchPanic",
   "return", "fi", "if p.fmt.sharpV", "assert GoStringer", "if ok", "defer p.catchPanic",
   "defer p.startUnsafe().restore", "return", "fi", "else", "switch verb", "case 'v','s','x','X','q'",
   "typeswitch", "case error", "defer p.catchPanic", "return", "case Stringer", "defer p.catchPanic",
   "return", "end", "end", "fi", "return false"]

def expectPrintArg : List String := [
   "if t == safeWrapperType", "defer p.startSafeOverride().restore", "assert w.SafeWrapper", "else",
   "defer p.startUnsafeOverride().restore", "assert w.UnsafeWrap", "fi", "if safeTypeRegistry[t]",
   "defer p.startSafeOverride().restore", "fi", "assert i.SafeValue", "if ok",
   "defer p.startSafeOverride().restore", "fi", "if arg == nil", "switch verb", "case 'T','v'",
   "case default", "end", "return", "fi", "switch verb", "case 'T'", "return", "case 'p'", "return", "end",
   "typeswitch", "case bool", "case float32", "case float64", "case complex64", "case complex128",
   "case int", "case int8", "case int16", "case int32", "case int64", "case uint", "case uint8",
   "case uint16", "case uint32", "case uint64", "case uintptr", "case string", "case []byte",
   "case reflect.Value", "if f.IsValid()", "if p.handleSpecialValues(f, t, verb, 0)", "return", "fi",
   "if safeTypeRegistry[t]", "defer p.startSafeOverride().restore", "fi", "if f.CanInterface()",
   "assert i.SafeValue", "if ok", "defer p.startSafeOverride().restore", "fi", "if p.handleMethods(verb)",
   "return", "fi", "fi", "fi", "case m.RedactableString", "defer p.startPreRedactable().restore", "return",
   "case m.RedactableBytes", "defer p.startPreRedactable().restore", "return", "case default",
   "if !p.handleMethods(verb)", "fi", "end"]

def expectCatchPanic : List String := [
   "if err != nil", "if v.Kind() == reflect.Ptr && v.IsNil()", "return", "fi", "if p.panicking", "fi", "fi"]

theorem gen_handleMethods_skeleton : Gen.handleMethodsSkeleton = expectHandleMethods := rfl
theorem gen_printArg_skeleton : Gen.printArgSkeleton = expectPrintArg := rfl
theorem gen_catchPanic_skeleton : Gen.catchPanicSkeleton = expectCatchPanic := rfl

end Redact
