import RedactVerif.Props.L2
import RedactVerif.Props.FactsReset
import RedactVerif.Props.FactsSkelPrinter
import RedactVerif.Proofs.EqW
import RedactVerif.Proofs.EqF
/-
C15 — HelperForErrorf returns the %w operand and the Sprintf text.

The `%w` logic of `handleMethods` stated outright on the model (the model's
`wrappedErr` is compared with the error the real `HelperForErrorf` returns by
the P-model correspondence, route `errorf`):

* a `%w` whose operand is an error, with capture enabled and nothing captured
  yet, captures it and renders like `%v` (`w_capture`);
* a second `%w`, a `%w` on a non-error value with methods, on a value without
  methods that reaches method dispatch, or a `%w` outside HelperForErrorf, is a
  bad verb and cancels the capture for good (`w_misuse_*`);
* known finding D8 as a theorem: a `%w` whose operand is of a predeclared basic
  type never reaches method dispatch — it is reported as a bad verb but a
  capture made earlier survives (`w_basic_does_not_cancel`).

"The text is otherwise identical to Sprintf's": proved for every format without a `%w`
directive (`errorf_text_eq_sprintf`, over Proofs/EqW.lean: no function of the printer reads or
writes `wrapErrs`/`wrappedErr` unless it is handed the verb `w` — a two-run induction over all 21
functions). FULL STATEMENT (not proved): for formats *with* `%w`, the text is Sprintf's with
the correctly used `%w` spelled `%v`. Decided on the real code by the P-errorf oracle.
-/
namespace Redact

theorem w_capture (env : Env) (n : Nat) (p : PP) (ms : Methods) (ty : List Byte) (sv reg nr : Bool) (ret : Nat)
    (sc : Script) (under : Val) (hne : p.erroring = false) (hwe : p.wrapErrs = true) (hnone : p.wrappedErr = none)
    (he : ms.isError = true) :
    handleMethods env (n + 1) p (.meth ms ty sv reg nr ret sc under) 119 =
      methDispatch env n { p with wrappedErr := some ret } (.meth ms ty sv reg nr ret sc under) ms nr ret sc 118 := by
  simp [handleMethods, hwe, hnone, he, hne]

theorem w_misuse_second (env : Env) (n : Nat) (p : PP) (ms : Methods) (ty : List Byte) (sv reg nr : Bool) (ret : Nat)
    (sc : Script) (under : Val) (hne : p.erroring = false) (e : Nat) (hsome : p.wrappedErr = some e) :
    handleMethods env (n + 1) p (.meth ms ty sv reg nr ret sc under) 119 =
      (true, badVerb env n { p with wrappedErr := none, wrapErrs := false } (.meth ms ty sv reg nr ret sc under) 119) := by
  simp [handleMethods, hsome, hne]

theorem w_misuse_non_error (env : Env) (n : Nat) (p : PP) (ms : Methods) (ty : List Byte) (sv reg nr : Bool) (ret : Nat)
    (sc : Script) (under : Val) (hne : p.erroring = false) (he : ms.isError = false) :
    handleMethods env (n + 1) p (.meth ms ty sv reg nr ret sc under) 119 =
      (true, badVerb env n { p with wrappedErr := none, wrapErrs := false } (.meth ms ty sv reg nr ret sc under) 119) := by
  simp [handleMethods, he, hne]

theorem w_misuse_outside_errorf (env : Env) (n : Nat) (p : PP) (ms : Methods) (ty : List Byte) (sv reg nr : Bool) (ret : Nat)
    (sc : Script) (under : Val) (hne : p.erroring = false) (hwe : p.wrapErrs = false) :
    handleMethods env (n + 1) p (.meth ms ty sv reg nr ret sc under) 119 =
      (true, badVerb env n { p with wrappedErr := none, wrapErrs := false } (.meth ms ty sv reg nr ret sc under) 119) := by
  simp [handleMethods, hwe, hne]

/-- Containers, structs, pointers: `%w` reaches `handleMethods`, the operand is not an error. -/
theorem w_misuse_no_methods (env : Env) (n : Nat) (p : PP) (ty : List Byte) (reg : Bool) (fs : Fields)
    (hne : p.erroring = false) :
    handleMethods env (n + 1) p (.struct ty reg fs) 119 =
      (true, badVerb env n { p with wrappedErr := none, wrapErrs := false } (.struct ty reg fs) 119) := by
  unfold handleMethods
  rw [if_neg (by simp [hne])]
  rfl

/-- Known finding D8: a `%w` on an operand of a predeclared basic type is reported
as a bad verb *without* touching the capture state. -/
theorem w_basic_does_not_cancel (env : Env) (n : Nat) (p : PP) (id : Nat) (k : BK) (ty : List Byte) (iv : Option Int)
    (hpre : isPredeclared ty = true) (hk : verbOkFor k 119 = false) :
    printArgBody env (n + 1) p (.leaf id k ty iv false false) 119 =
      badVerb env n p (.leaf id k ty iv false false) 119 false := by
  unfold printArgBody
  simp [hpre, hk]

theorem helper_starts_capturing : (({ newPP with wrapErrs := true } : PP)).wrapErrs = true ∧
    (({ newPP with wrapErrs := true } : PP)).wrappedErr = none := by decide

/-! ### The text is Sprintf's (formats without a `%w` directive) -/

/-- **For every format none of whose directives has the verb `w`, `HelperForErrorf` prints exactly what `Sprintf`
prints**: the same bytes, or the same propagating panic — for all operands, whose methods may themselves use `%w`
in nested `Printf` calls (a nested printer never captures). -/
theorem errorf_text_eq_sprintf (env : Env) (f : List Byte) (args : List Val) (hf : EqW.NoW f) :
    (helperForErrorf env f args).output = (sprintf env f args).output := by
  have h := EqW.errorf_rel_sprintf env f args hf
  generalize sprintf env f args = a at h
  generalize helperForErrorf env f args = b at h
  cases h with
  | ok hq => simp only [Res.output]; rw [hq.buf]
  | panic b pl => rfl
  | fuel => rfl
  | unsupported => rfl

/-- … in particular for every format that does not contain the byte `w` (0x77): a verb `w` can only be spelled
with that byte — a verb decoded from a multi-byte sequence is at least 0x80 (`EqW.decodeVerb_w`). -/
theorem errorf_text_eq_sprintf_no_w_byte (env : Env) (f : List Byte) (args : List Val) (h : (0x77 : Byte) ∉ f) :
    (helperForErrorf env f args).output = (sprintf env f args).output :=
  errorf_text_eq_sprintf env f args (EqW.noW_of_not_mem f h)

/-- … and for ASCII formats without the letter `w` (the parser's fast path). -/
theorem errorf_text_eq_sprintf_ascii (env : Env) (f : List Byte) (args : List Val) (h : ∀ x ∈ f, x < 0x80 ∧ x ≠ 0x77) :
    (helperForErrorf env f args).output = (sprintf env f args).output :=
  errorf_text_eq_sprintf env f args (EqW.noW_of_ascii f h)

/-- **For a format without a `%w` directive `HelperForErrorf` returns no error** ("nil in every other case", for the
case of no `%w` at all): the capture field is still empty when the call returns (Proofs/EqF.lean: under a verb other
than `w` every function of the printer leaves `wrapErrs` and `wrappedErr` as it found them). -/
theorem errorf_returns_nil_without_w (env : Env) (f : List Byte) (args : List Val) (hf : EqW.NoW f) (q : PP)
    (h : helperForErrorf env f args = .ok q) : q.wrappedErr = none :=
  (EqF.doPrintf_keeps_capture env defaultFuel { newPP with wrapErrs := true } f args hf q h).2

/-- An operand printed under a verb other than `w` neither captures nor cancels a capture. -/
theorem printArg_keeps_capture (env : Env) (n : Nat) (p : PP) (v : Val) (verb : Nat) (hv : verb ≠ 119) (q : PP)
    (h : printArg env n p v verb = .ok q) : q.wrapErrs = p.wrapErrs ∧ q.wrappedErr = p.wrappedErr :=
  EqF.printArg_keeps_capture env n p v verb hv q h

/-- Every operand printed under a verb other than `w` is printed the same with and without capture enabled, whatever
has been captured so far (the operand-level statement behind the theorem above). -/
theorem printArg_ignores_capture (env : Env) (n : Nat) (p : PP) (a : Bool) (b : Option Nat) (v : Val) (verb : Nat)
    (hv : verb ≠ 119) :
    (printArg env n { p with wrapErrs := a, wrappedErr := b } v verb).output = (printArg env n p v verb).output := by
  have h := (EqW.espec_all env n).printArg p { p with wrapErrs := a, wrappedErr := b } v verb (EqW.eqv_setW p a b) hv
  generalize printArg env n p v verb = x at h
  generalize printArg env n { p with wrapErrs := a, wrappedErr := b } v verb = y at h
  cases h with
  | ok hq => simp only [Res.output]; rw [hq.buf]
  | panic b pl => rfl
  | fuel => rfl
  | unsupported => rfl

-- "‹%v %世": multi-byte characters in the text and as a verb, no byte `w`
example : (0x77 : Byte) ∉ ([0xE2, 0x80, 0xB9, 0x25, 0x76, 0x20, 0x25, 0xE4, 0xB8, 0x96] : List Byte) := by decide

/-! Premises satisfiable: "x=%v %5d\n" is an ASCII format without `w`. -/
example : ∀ x ∈ ([0x78, 0x3D, 0x25, 0x76, 0x20, 0x25, 0x35, 0x64, 0x0A] : List Byte), x < 0x80 ∧ x ≠ 0x77 := by decide

end Redact
