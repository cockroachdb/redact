import RedactVerif.Model.Writer
import RedactVerif.Proofs.BufferInv
import RedactVerif.Props.L2
import RedactVerif.Props.FactsConsts
import RedactVerif.Props.FactsSkelBuffer
import RedactVerif.Props.TransBuffer
import RedactVerif.Props.TransEscape
/-
C01 — every produced string is a well-formed redactable string
(and C03's "no envelope spans a line break": `WFL` = well-formed + line-safe).

Level reached: proof for the buffer layer (every sequence of operations of
`internal/buffer`, `builder.StringBuilder` and the printer's SafeWriter
adapter, with arbitrary payload bytes and runes) and for `EscapeBytes`.
The only hypothesis is on raw-mode (pre-redactable) writes: what is written
raw must itself be `Obtainable` — and every output is `Obtainable`
(`outputs_obtainable`), which closes the induction over print-then-reprint
histories. The printer (L2) reaches the buffer only through these operations.
-/
namespace Redact

/-- Hypothesis on one operation in state `b`: raw-mode writes carry finished redactables. -/
def OpOk (b : Buffer) : Op → Prop
  | .write p => b.mode = .raw → Obtainable p
  | .writeByte x => b.mode = .raw → Obtainable [x]
  | .writeRune r => b.mode = .raw → Obtainable (encodeRune r)
  | _ => True

def RunOk : Buffer → List Op → Prop
  | _, [] => True
  | b, op :: r => OpOk b op ∧ RunOk (b.step op).1 r

theorem inv_step (b : Buffer) (op : Op) (hi : Inv b) (hok : OpOk b op) : Inv (b.step op).1 := by
  cases op with
  | setMode m => exact inv_setMode b m hi
  | write p => exact inv_write b p hi hok
  | writeByte x => exact inv_writeByte b x hi hok
  | writeRune r => exact inv_writeRune b r hi hok
  | reset => exact inv_init
  | take => exact inv_take b hi
  | grow n => exact hi
  | accLen => exact hi
  | accString => exact hi
  | accRedactable => exact hi
  | accMode => exact hi

theorem inv_run (b : Buffer) (ops : List Op) (hi : Inv b) (hok : RunOk b ops) : Inv (b.run ops) := by
  induction ops generalizing b with
  | nil => simpa [Buffer.run] using hi
  | cons op r ih =>
    simp only [Buffer.run, List.foldl_cons]
    exact ih _ (inv_step b op hi hok.1) hok.2

/-- **C01/C03, buffer level.** Whatever the sequence of buffer operations and
whatever the payload bytes, runes and mode switches, the string the buffer
hands out is a well-formed, line-safe redactable. -/
theorem buffer_wf (ops : List Op) (h : RunOk Buffer.init ops) :
    WFL (tokenize (Buffer.init.run ops).redactableBytes) :=
  (obtainable_finalize _ (inv_run _ ops inv_init h)).2

/-- **C01/C03 on the code as translated from the source**: any sequence of calls of the methods of
`buffer.Buffer` as /verif/extract reads them off `internal/buffer/buffer.go` on every run
(`Generated/Trans.lean`), starting from the zero `Buffer`, hands out a well-formed, line-safe
redactable — because those methods compute the model's (`transRun_conc`, Props/TransBuffer.lean). -/
theorem translated_buffer_wf (ops : List Op) (h : RunOk Buffer.init ops) :
    WFL (tokenize (Trans.RedactableBytes (transRun (conc Buffer.init) ops))) := by
  rw [transRun_conc, redactableBytes_translated]
  exact buffer_wf ops h

/-- Every output is itself acceptable as a raw (pre-redactable) write later on. -/
theorem outputs_obtainable (ops : List Op) (h : RunOk Buffer.init ops) :
    Obtainable (Buffer.init.run ops).redactableBytes :=
  obtainable_finalize _ (inv_run _ ops inv_init h)

/-- The same holds at every intermediate point (accessors, Take). -/
theorem buffer_wf_prefix (ops₁ ops₂ : List Op) (h : RunOk Buffer.init (ops₁ ++ ops₂)) :
    Obtainable (Buffer.init.run ops₁).redactableBytes := by
  have : RunOk Buffer.init ops₁ := by
    have gen : ∀ (b : Buffer) (a c : List Op), RunOk b (a ++ c) → RunOk b a := by
      intro b a c
      induction a generalizing b with
      | nil => intro _; trivial
      | cons op r ih => intro h; exact ⟨h.1, ih _ h.2⟩
    exact gen _ _ _ h
  exact outputs_obtainable ops₁ this

/-! ### StringBuilder (builder/builder.go) -/

/-- Hypothesis on a SafeWriter call: the inner result of `Print/Printf` is a finished redactable. -/
def WOpOk : WOp → Prop
  | .print r => Obtainable r
  | _ => True

theorem inv_builderOps (b : Buffer) (w : WOp) (hi : Inv b) (hok : WOpOk w) : Inv (b.run (builderOps w)) := by
  apply inv_run b _ hi
  cases w <;> simp [builderOps, RunOk, OpOk, Buffer.step, setMode_mode]
  exact hok

theorem run_append (b : Buffer) (a c : List Op) : b.run (a ++ c) = (b.run a).run c := by
  simp [Buffer.run, List.foldl_append]

theorem builderRun_cons (b : Buffer) (w : WOp) (r : List WOp) :
    builderRun b (w :: r) = builderRun (b.run (builderOps w)) r := by
  simp [builderRun, run_append]

theorem inv_builderRun (b : Buffer) (ws : List WOp) (hi : Inv b) (hok : ∀ w ∈ ws, WOpOk w) :
    Inv (builderRun b ws) := by
  induction ws generalizing b with
  | nil => exact hi
  | cons w r ih =>
    rw [builderRun_cons]
    exact ih _ (inv_builderOps b w hi (hok w (by simp))) (fun w' hw' => hok w' (by simp [hw']))

/-- **C01/C03/C09 (well-formedness clause), StringBuilder.** Any sequence of
SafeWriter calls with arbitrary payloads yields a well-formed, line-safe,
obtainable redactable. -/
theorem builder_wf (ws : List WOp) (hok : ∀ w ∈ ws, WOpOk w) :
    Obtainable (builderRun Buffer.init ws).redactableBytes :=
  obtainable_finalize _ (inv_builderRun _ ws inv_init hok)

/-! ### The printer's SafeWriter adapter (printer_adapter.go) -/

theorem inv_startSafeOverride (p : PPB) (hi : Inv p.buf) (hm : p.buf.mode ≠ .raw) :
    Inv p.startSafeOverride.1.buf ∧ p.startSafeOverride.1.buf.mode ≠ .raw := by
  unfold PPB.startSafeOverride
  split
  · exact ⟨inv_setMode _ _ hi, by rw [setMode_mode]; decide⟩
  · exact ⟨hi, hm⟩

theorem inv_startUnsafe (p : PPB) (hi : Inv p.buf) (hm : p.buf.mode ≠ .raw) :
    Inv p.startUnsafe.1.buf ∧ p.startUnsafe.1.buf.mode ≠ .raw := by
  unfold PPB.startUnsafe
  split
  · exact ⟨inv_setMode _ _ hi, by rw [setMode_mode]; decide⟩
  · exact ⟨hi, hm⟩

theorem inv_restore (b q : Buffer) (hq : Inv q) : Inv (q.setMode b.mode) ∧ (q.setMode b.mode).mode = b.mode :=
  ⟨inv_setMode _ _ hq, setMode_mode _ _⟩

theorem inv_adapterStep (p : PPB) (w : WOp) (hi : Inv p.buf) (hm : p.buf.mode ≠ .raw) :
    Inv (adapterStep p w).buf ∧ (adapterStep p w).buf.mode = p.buf.mode := by
  have ⟨s1, s2⟩ := inv_startSafeOverride p hi hm
  have ⟨u1, u2⟩ := inv_startUnsafe p hi hm
  cases w <;> simp only [adapterStep, PPB.restore, PPB.onBuf]
  case print => exact ⟨hi, trivial⟩
  case safeString s => exact inv_restore p.buf _ (inv_write_nr _ s s1 s2)
  case safeByte x => exact inv_restore p.buf _ (inv_writeByte_nr _ x s1 s2)
  case safeRune r => exact inv_restore p.buf _ (inv_writeRune_nr _ r s1 s2)
  case unsafeString s => exact inv_restore p.buf _ (inv_write_nr _ s u1 u2)
  case unsafeByte x => exact inv_restore p.buf _ (inv_writeByte_nr _ x u1 u2)
  case unsafeRune r => exact inv_restore p.buf _ (inv_writeRune_nr _ r u1 u2)
  case safeNum s =>
    -- SafeInt/SafeUint/SafeFloat: startSafeOverride, then the leaf formatter's startUnsafe bracket inside
    have ⟨n1, n2⟩ := inv_startUnsafe p.startSafeOverride.1 s1 s2
    exact inv_restore p.buf _ (inv_restore p.startSafeOverride.1.buf _ (inv_write_nr _ s n1 n2)).1

theorem inv_adapterRun (p : PPB) (ws : List WOp) (hi : Inv p.buf) (hm : p.buf.mode ≠ .raw) :
    Inv (adapterRun p ws).buf ∧ (adapterRun p ws).buf.mode = p.buf.mode := by
  induction ws generalizing p with
  | nil => exact ⟨hi, rfl⟩
  | cons w r ih =>
    have ⟨h1, h2⟩ := inv_adapterStep p w hi hm
    have ⟨h3, h4⟩ := ih (adapterStep p w) h1 (by rw [h2]; exact hm)
    exact ⟨by simpa [adapterRun] using h3, by simpa [adapterRun, h2] using h4⟩

/-- **C01/C03/C09 (well-formedness clause), SafePrinter.** Any sequence of
SafeWriter calls issued by a SafeFormat method, a Sprintfn callback or a
Formatter that discovered the SafePrinter — under any override and from any
reachable buffer state in an escaping mode — leaves a buffer whose output is a
well-formed, line-safe, obtainable redactable, and restores the ambient mode. -/
theorem adapter_wf (p : PPB) (ws : List WOp) (hi : Inv p.buf) (hm : p.buf.mode ≠ .raw) :
    Obtainable (adapterRun p ws).buf.redactableBytes ∧ (adapterRun p ws).buf.mode = p.buf.mode :=
  ⟨obtainable_finalize _ (inv_adapterRun p ws hi hm).1, (inv_adapterRun p ws hi hm).2⟩

/-! ### EscapeBytes (helpers.go) -/

/-- **C01/C03/C10.** `EscapeBytes(b)` is a well-formed, line-safe, obtainable redactable for every `b`. -/
theorem escapeBytes_wf (s : List Byte) : Obtainable (escapeBytes s) := by
  unfold escapeBytes
  have htake : (startB ++ s).take 3 = startB := by simp [startB]
  have hdrop : (startB ++ s).drop 3 = s := by simp [startB]
  have hg : goodT (tokenize ((startB ++ s).take 3)) = true := by rw [htake]; decide
  have hspec := escapeBytesAt_spec (startB ++ s) 3 true hg
  simp only at hspec
  obtain ⟨htok, hgood⟩ := hspec
  rw [htake, hdrop] at htok
  have hR : scan (escTok true (tokenize startB) (tokenize s)) = some true :=
    scan_escTok_open _ _ (by decide)
  have hsc : scan (tokenize (escapeBytesAt (startB ++ s) 3 true false)) = some true := by
    rw [htok]; split
    · rw [scan_append, hR]; simp [scanFrom_q]
    · exact hR
  refine ⟨?_, ?_⟩
  · rw [tokenize_append_endB, goodT_snoc_e]; exact hgood
  · rw [tokenize_append_endB, scan_append, hsc]; simp [scanFrom]


/-! ### The printer (L2): every entry point of the model -/

/-- **C01/C03, printer level.** For every oracle (`render` = whatever strconv/fmt
produce for basic values), every error hook, every format string (arbitrary
bytes), every argument list of the modelled universe — leaves of all basic
kinds, Safe/Unsafe wrappers at any nesting, RedactableString/Bytes, values
with String/Error/GoString/Format/SafeFormat/SafeMessage methods whose bodies
are arbitrary scripts of SafePrinter calls (including nested Print/Printf and
panics with arbitrary payloads), slices, maps, structs, pointers, registered
and SafeValue types — `Sprintf` either lets a panic propagate or returns a
well-formed, line-safe, obtainable redactable. The only hypothesis is that
embedded RedactableString/Bytes are themselves obtainable (`ListOk`). -/
theorem sprintf_wf (env : Env) (he : EnvOk env) (f : List Byte) (args : List Val) (ha : ListOk args)
    (q : PP) (h : sprintf env f args = .ok q) : Obtainable q.buf.redactableBytes :=
  (doPrintf_out env he _ newPP pre_newPP f args ha q h).1

theorem sprint_wf (env : Env) (he : EnvOk env) (args : List Val) (ha : ListOk args)
    (q : PP) (h : sprint env args = .ok q) : Obtainable q.buf.redactableBytes :=
  (doPrint_out env he _ newPP pre_newPP args ha q h).1

theorem helperForErrorf_wf (env : Env) (he : EnvOk env) (f : List Byte) (args : List Val) (ha : ListOk args)
    (q : PP) (h : helperForErrorf env f args = .ok q) : Obtainable q.buf.redactableBytes :=
  (doPrintf_out env he _ _ (pre_entry _ rfl) f args ha q h).1

/-- Nested printers inside a StringBuilder / Sprintfn callback: a script run on
a printer in any reachable state keeps the buffer invariant. -/
theorem script_wf (env : Env) (he : EnvOk env) (n : Nat) (p : PP) (hp : Pre p) (sc : Script) (hsc : ScriptOk sc)
    (q : PP) (h : runScript env n p sc = .ok q) : Obtainable q.buf.redactableBytes ∧ q.buf.mode = p.buf.mode := by
  have := (spec_all env he n).runScript p sc hp hsc
  rw [h] at this
  exact ⟨obtainable_finalize _ this.1, this.2.1⟩

/-! ### Non-vacuity: the hypotheses are met by non-trivial runs -/

example : RunOk Buffer.init [.setMode .safeEsc, .write [0xE2, 0x80], .setMode .unsafeEsc, .write [0x80, 0xB9, 0x0A, 0x41],
    .setMode .raw, .write (startB ++ [0x78] ++ endB), .accRedactable, .take, .writeRune 0x2039] := by
  simp only [RunOk, OpOk, Buffer.step]
  decide

example : (Buffer.init.run [.setMode .safeEsc, .write [0xE2, 0x80], .setMode .unsafeEsc, .write [0x80, 0xB9, 0x0A, 0x41]]).redactableBytes
    = [0xE2, 0x80, 0x3F] ++ startB ++ [0x80, 0xB9] ++ endB ++ [0x0A] ++ startB ++ [0x41] ++ endB := by
  decide

/-- Non-vacuity at L2: a format with a bad verb, an Unsafe(Safe(..)) wrapper and a redactable operand. -/
example : ListOk [.unsafeW (.safeW (.leaf 0 .str ([0x73, 0x74, 0x72, 0x69, 0x6E, 0x67] /- "string" -/ : List UInt8) none false false)), .redactable (startB ++ [0x78] ++ endB) ([0x6D, 0x61, 0x72, 0x6B, 0x65, 0x72, 0x73, 0x2E, 0x52, 0x65, 0x64, 0x61, 0x63, 0x74, 0x61, 0x62, 0x6C, 0x65, 0x53, 0x74, 0x72, 0x69, 0x6E, 0x67] /- "markers.RedactableString" -/ : List UInt8)] := by
  intro v hv
  simp only [List.mem_cons, List.mem_nil_iff, or_false] at hv
  rcases hv with rfl | rfl
  · simp [ValOk]
  · simp only [ValOk]; decide

end Redact
