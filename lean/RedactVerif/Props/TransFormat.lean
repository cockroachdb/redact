import RedactVerif.Generated.Trans
import RedactVerif.Model.Format
/-
The tie for `MakeFormat` (C14) by translation: `Generated/Trans.lean` holds the function as the
translator reads it off /repo's `internal/fmtforward/make_format.go` on every run; here it is
proved to compute, on every `fmt.State`, what the hand-written `makeFormat` computes — the
function `Props/C14.lean`'s round-trip theorem is about.
-/
namespace Redact

/-- The `fmt.State` that reports the directive state `st`. -/
def stateOf (st : FState) : GoFmtState where
  Flag c := if c = 43 then st.plus else if c = 45 then st.minus else if c = 35 then st.sharp
    else if c = 32 then st.space else if c = 48 then st.zero else false
  Width := match st.wid with | some w => ((w : Int), true) | none => (0, false)
  Precision := match st.prec with | some p => ((p : Int), true) | none => (0, false)

theorem goItoa_nat (n : Nat) : goItoa (n : Int) = itoa n := by
  unfold goItoa
  have : ¬ ((n : Int) < 0) := by omega
  simp [this]

theorem ite_append_self {α} (c : Prop) [Decidable c] (x t : List α) :
    (if c then x ++ t else t) = (if c then x else []) ++ t := by split <;> rfl

theorem ite_append_append_self {α} (c : Prop) [Decidable c] (x y t : List α) :
    (if c then x ++ (y ++ t) else t) = (if c then x ++ y else []) ++ t := by
  rw [← List.append_assoc, ite_append_self]

/-- What the translated `MakeFormat` computes on any `fmt.State`, as one expression. -/
theorem Trans.MakeFormat_eq (s : GoFmtState) (verb : Int) :
    Trans.MakeFormat s verb =
      have long := (false, [0x25] ++ (if s.Flag 43 then [0x2B] else [])
        ++ (if s.Flag 45 then [0x2D] else []) ++ (if s.Flag 35 then [0x23] else [])
        ++ (if s.Flag 32 then [0x20] else []) ++ (if s.Flag 48 then [0x30] else [])
        ++ (if s.Width.2 then goItoa s.Width.1 else [])
        ++ (if s.Precision.2 then [0x2E] ++ goItoa s.Precision.1 else []) ++ goEncodeRune verb)
      if !s.Flag 43 && !s.Flag 45 && !s.Flag 35 && !s.Flag 32 && !s.Flag 48
          && !s.Width.2 && !s.Precision.2 then
        if verb == 118 then (true, [0x25, 0x76]) else if verb == 115 then (false, [0x25, 0x73])
        else if verb == 100 then (false, [0x25, 0x64]) else long
      else long := by
  unfold Trans.MakeFormat
  -- Each `if` without `else` of the `do` block calls a join point in both branches. Once the join
  -- points are local definitions, `simp` rewrites each of them once, and `← apply_ite` turns the
  -- two calls into one call on an `if`: the term stays as long as the source.
  extract_lets
  simp +zetaDelta only [← apply_ite, ite_append_self, ite_append_append_self, List.append_assoc,
    List.nil_append, Id.run, pure]

/-! What `stateOf st` reports, read back field by field. -/

theorem stateOf_width (st : FState) :
    (if (stateOf st).Width.2 = true then goItoa (stateOf st).Width.1 else []) = (match st.wid with | some w => itoa w | none => []) := by
  unfold stateOf; cases st.wid <;> simp only [goItoa_nat, if_true, Bool.false_eq_true, if_false]

theorem stateOf_prec (st : FState) :
    (if (stateOf st).Precision.2 = true then [0x2E] ++ goItoa (stateOf st).Precision.1 else []) =
      (match st.prec with | some p => 0x2E :: itoa p | none => []) := by
  unfold stateOf; cases st.prec <;> simp only [goItoa_nat, if_true, Bool.false_eq_true, if_false, List.singleton_append]

theorem stateOf_noWidth (st : FState) : (!(stateOf st).Width.2) = st.wid.isNone := by unfold stateOf; cases st.wid <;> rfl

theorem stateOf_noPrec (st : FState) : (!(stateOf st).Precision.2) = st.prec.isNone := by unfold stateOf; cases st.prec <;> rfl

/-- **The translated `MakeFormat` is the model's `makeFormat`**, for every directive state. -/
theorem makeFormat_translated (st : FState) :
    Trans.MakeFormat (stateOf st) (st.verb : Int) = makeFormat st := by
  have hv : ∀ k : Nat, (((st.verb : Int) == (k : Int)) = true) = (st.verb = k) := fun k =>
    propext ⟨fun h => by have := of_decide_eq_true h; omega, fun h => by rw [h]; exact decide_eq_true rfl⟩
  have h118 : (((st.verb : Int) == 118) = true) = (st.verb = 118) := hv 118
  have h115 : (((st.verb : Int) == 115) = true) = (st.verb = 115) := hv 115
  have h100 : (((st.verb : Int) == 100) = true) = (st.verb = 100) := hv 100
  rw [Trans.MakeFormat_eq]
  unfold makeFormat noFlags
  -- the two `if`s on width and precision first: rewriting `Width.2` inside them would hide their shape
  simp only [stateOf_width, stateOf_prec]
  simp only [stateOf_noWidth, stateOf_noPrec, show (stateOf st).Flag 43 = st.plus from rfl, show (stateOf st).Flag 45 = st.minus from rfl,
    show (stateOf st).Flag 35 = st.sharp from rfl, show (stateOf st).Flag 32 = st.space from rfl,
    show (stateOf st).Flag 48 = st.zero from rfl, goEncodeRune, runeBytes]
  -- both sides now test the same Boolean ("no flag, width or precision"), the model once per short form
  generalize (!st.plus && !st.minus && !st.sharp && !st.space && !st.zero && st.wid.isNone && st.prec.isNone) = c
  cases c <;> simp only [Bool.false_and, Bool.true_and, Bool.false_eq_true, if_false, if_true, decide_eq_true_eq, h118, h115, h100] <;> rfl

/-- The public `redact.MakeFormat` (api.go) delegates to it. -/
theorem api_makeFormat (st : FState) : Trans.API_MakeFormat (stateOf st) (st.verb : Int) = makeFormat st := by
  rw [← makeFormat_translated]; rfl

end Redact
