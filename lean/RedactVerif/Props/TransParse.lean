import RedactVerif.Generated.Trans
import RedactVerif.Model.Printer
import RedactVerif.Props.TransEscape
/-
The tie for the number parsers of `doPrintf`'s directive parser (`internal/rfmt/print.go`:
`tooLarge`, `parsenum`, `parseArgNumber`) by translation. `Generated/Trans.lean` holds them as
the translator reads them off /repo on every run — `parsenum` with its loop over `s[newi]`, its
overflow exit from inside the loop and its three named results; `parseArgNumber` with its search
for the closing bracket and its call of `parsenum` on `format[1:i]` — every index guarded by its
definedness. Here they are proved, for every format, to return (no index out of range, fuel
sufficient) what the model's list-level `parsenum` / `parseArgNumber` return, and the model's
`argNumber` is proved to be Go's `argNumber` evaluated on the translated `parseArgNumber`.
-/
namespace Redact
open _root_.Redact.Trans

theorem tooLarge_translated (x : Nat) : Trans.tooLarge (x : Int) = tooLarge x := by
  unfold Trans.tooLarge tooLarge
  simp only [Id.run, pure]
  by_cases h : x > 1000000
  · have : (x : Int) > 1000000 := by omega
    simp [h, this]
  · have h1 : ¬ (x : Int) > 1000000 := by omega
    have h2 : ¬ (x : Int) < -1000000 := by omega
    simp [h, h1, h2]

theorem sl_cons (s : List Byte) (j e : Nat) (hj : j < e) (he : e ≤ s.length) :
    sl s j e = s.getD j 0 :: sl s (j + 1) e := by
  unfold sl
  have hl : j < (s.take e).length := by simp; omega
  rw [List.drop_eq_getElem_cons hl]
  congr 1
  simp [List.getD, List.getElem?_eq_getElem (show j < s.length by omega)]

theorem sl_length (s : List Byte) (j e : Nat) (he : e ≤ s.length) : (sl s j e).length = e - j := by
  unfold sl; simp; omega

theorem sl_nil_of_ge (s : List Byte) (j e : Nat) (h : e ≤ j) : sl s j e = [] := by
  unfold sl
  apply List.drop_eq_nil_of_le
  simp; omega

theorem u8_sub48 (c : UInt8) (h : (48 : UInt8) ≤ c) : (c - 48).toNat = c.toNat - 48 := by
  have h' : (48 : UInt8).toNat ≤ c.toNat := h
  rw [UInt8.toNat_sub_of_le c 48 h]
  rfl

/-- The loop of `parsenum`, from position `j` with accumulator `n`, `b`. -/
theorem parsenum_loop1_spec (s : List Byte) (e : Nat) (he : e ≤ s.length) :
    ∀ (fuel : Nat) (v : parsenum.Vars) (j n : Nat) (b : Bool),
      v.s = s → v.end' = (e : Int) → v.newi = (j : Int) → v.num = (n : Int) → v.isnum = b → j ≤ e → e - j < fuel →
      ∃ v', parsenum.loop1 fuel v = some v' ∧
        v'.num = ((parsenumAux n b (sl s j e)).1 : Int) ∧ v'.isnum = (parsenumAux n b (sl s j e)).2.1 ∧
        v'.newi = ((e - (parsenumAux n b (sl s j e)).2.2.length : Nat) : Int) := by
  intro fuel
  induction fuel with
  | zero => intro v j n b _ _ _ _ _ _ hf; omega
  | succ fuel ih =>
    intro v j n b hs hee hj hn hb hje hf
    unfold parsenum.loop1
    simp only [hs, hee, hj, hn, goInRange_nat, goIndex_nat, Int.ofNat_lt, tooLarge_translated, Option.pure_def, Option.bind_eq_bind]
    by_cases hlt : j < e
    · have hin : j < s.length := Nat.lt_of_lt_of_le hlt he
      rw [sl_cons s j e hlt he, parsenumAux]
      by_cases hd : isDigit (s.getD j 0) = true
      · have ⟨h1, h2⟩ : (48 : UInt8) ≤ s.getD j 0 ∧ s.getD j 0 ≤ 57 := by simpa [isDigit] using hd
        by_cases htl : tooLarge n = true
        · simp only [hlt, hin, h1, h2, hd, htl, decide_true, Bool.not_true, Bool.false_or, Bool.and_self, goGuard_true,
            if_true, Bool.false_eq_true, if_false, Option.bind_some]
          refine ⟨_, rfl, ?_, ?_, ?_⟩ <;> simp
        · simp only [hlt, hin, h1, h2, hd, htl, decide_true, Bool.not_true, Bool.false_or, Bool.and_self, goGuard_true,
            if_true, Bool.false_eq_true, if_false, Option.bind_some]
          exact ih _ (j + 1) (n * 10 + ((s.getD j 0).toNat - 48)) true rfl rfl (by simp) (by
              simp only [u8_sub48 _ h1]; push_cast; rfl) rfl hlt (fuel_step hf (Nat.lt_succ_self j) hlt)
      · have hd0 : isDigit (s.getD j 0) = false := eq_false_of_ne_true hd
        have hg : (decide ((48 : UInt8) ≤ s.getD j 0) && decide (s.getD j 0 ≤ 57)) = false := hd0
        simp only [hlt, hin, hd, hg, decide_true, Bool.not_true, Bool.true_and, Bool.and_self, goGuard_true, Bool.or_true,
          Bool.not_false, if_true, Bool.false_eq_true, if_false, Option.bind_some]
        refine ⟨v, rfl, hn, hb, ?_⟩
        rw [hj, ← sl_cons s j e hlt he, sl_length s j e he, Nat.sub_sub_self hje]
    · obtain rfl : j = e := Nat.le_antisymm hje (Nat.le_of_not_lt hlt)
      simp only [hlt, sl_self, parsenumAux, decide_false, Bool.not_false, Bool.true_or, Bool.false_and, Bool.true_and, goGuard_true, if_true, Option.bind_some]
      exact ⟨v, rfl, hn, hb, by simp [hj]⟩

/-- **The translated `parsenum` is the model's**: on `s[start:end]` it returns the model's number and flag, and the
index at which the model's remaining input begins (`end` itself on overflow); no index is out of range. -/
theorem parsenum_translated (s : List Byte) (start e : Nat) (he : e ≤ s.length) :
    Trans.parsenum s (start : Int) (e : Int) =
      some (((parsenum (sl s start e)).1 : Int), (parsenum (sl s start e)).2.1,
            ((e - (parsenum (sl s start e)).2.2.length : Nat) : Int)) := by
  unfold Trans.parsenum Trans.parsenum.run
  by_cases hge : start ≥ e
  · have hc : (start : Int) ≥ (e : Int) := by omega
    rw [sl_nil_of_ge s start e hge]
    simp [hc, parsenum, parsenumAux]
  · have hc : ¬ (start : Int) ≥ (e : Int) := by omega
    obtain ⟨v', hv, h1, h2, h3⟩ := parsenum_loop1_spec s e he (s.length + 1)
      { s := s, start := (start : Int), end' := (e : Int), newi := (start : Int) } start 0 false rfl rfl rfl rfl rfl (by omega) (by omega)
    simp only [hc, decide_false, Bool.false_eq_true, if_false, Option.pure_def, Option.bind_eq_bind, goLen, Int.toNat_natCast]
    simp only [hv, Option.bind_some, ite_self, Option.map_some, h1, h2, h3, parsenum]

/-- First index `i ≥ j` with `f[i] = ']'`. -/
def closeIdx (f : List Byte) : Nat → Nat → Option Nat
  | 0, _ => none
  | fuel + 1, j =>
    if j < f.length then (if f.getD j 0 = 0x5D then some j else closeIdx f fuel (j + 1)) else none

theorem closeIdx_bounds (f : List Byte) : ∀ fuel j i, closeIdx f fuel j = some i → j ≤ i ∧ i < f.length := by
  intro fuel
  induction fuel with
  | zero => intro j i h; simp [closeIdx] at h
  | succ fuel ih =>
    intro j i h
    unfold closeIdx at h
    split at h
    · split at h
      · simp only [Option.some.injEq] at h; omega
      · have := ih _ _ h; omega
    · simp at h

/-- The model's bracket scan, on indexes. -/
theorem scanBracket_closeIdx (f : List Byte) : ∀ fuel j n, f.length - j < fuel →
    scanBracket (f.drop j) n = (closeIdx f fuel j).map (fun i => (sl f j i, n + (i - j) + 1)) := by
  intro fuel
  induction fuel with
  | zero => intro j n h; omega
  | succ fuel ih =>
    intro j n h
    unfold closeIdx
    by_cases hj : j < f.length
    · rw [if_pos hj, drop_cons_getD f j hj, scanBracket]
      by_cases hx : f.getD j 0 = 0x5D
      · rw [if_pos hx, if_pos hx]; simp [sl_self]
      · rw [if_neg hx, if_neg hx, ih (j + 1) (n + 1) (by omega)]
        cases hc : closeIdx f fuel (j + 1) with
        | none => simp
        | some i =>
          have hb := closeIdx_bounds f fuel (j + 1) i hc
          simp only [Option.map_some]
          rw [sl_cons f j i (by omega) (by omega)]
          congr 2
          omega
    · rw [if_neg hj, List.drop_eq_nil_of_le (by omega)]
      simp [scanBracket]

/-- What `parseArgNumber` returns, with Go's `int` results (the index is −1 for `[0]`). -/
def parseArgNumberZ (f : List Byte) : Int × Int × Bool :=
  if f.length < 3 then (0, 1, false)
  else match scanBracket (f.drop 1) 1 with
    | none => (0, 1, false)
    | some (inner, consumed) =>
      if !(parsenum inner).2.1 || !(parsenum inner).2.2.isEmpty then (0, (consumed : Int), false)
      else (((parsenum inner).1 : Int) - 1, (consumed : Int), true)

/-- The model's `parseArgNumber` is `parseArgNumberZ` with the index truncated at 0 (the caller tests `0 ≤ index`
through `1 ≤ width`). -/
theorem parseArgNumber_eq_Z (f : List Byte) :
    parseArgNumber f = ((parseArgNumberZ f).1.toNat, (parseArgNumberZ f).2.1.toNat, (parseArgNumberZ f).2.2) := by
  unfold parseArgNumber parseArgNumberZ
  by_cases h : f.length < 3
  · simp [h]
  · rw [if_neg h, if_neg h]
    cases f with
    | nil => simp at h
    | cons c rest =>
      simp only [List.drop_succ_cons, List.drop_zero]
      cases hs : scanBracket rest 1 with
      | none => simp
      | some ic =>
        obtain ⟨inner, consumed⟩ := ic
        simp only
        by_cases hc : (!(parsenum inner).2.1 || !(parsenum inner).2.2.isEmpty) = true
        · simp [hc]
        · simp [hc]

/-- `newi != i` after `parsenum` on `format[1:i]`: something was left over. -/
theorem newi_bne (j : Nat) (rem : List Byte) (hj : 1 ≤ j) :
    ((((j - rem.length : Nat) : Int)) != (j : Int)) = !rem.isEmpty := by
  cases rem with
  | nil => simp
  | cons c r => simp; omega

/-- The search loop of `parseArgNumber`. -/
theorem parseArgNumber_loop1_spec (f : List Byte) :
    ∀ (fuel : Nat) (v : parseArgNumber.Vars) (j : Nat),
      v.format = f → v.i = (j : Int) → v.ret_ = false → 1 ≤ j → f.length - j < fuel →
      ∃ v', parseArgNumber.loop1 fuel v = some v' ∧
        match closeIdx f fuel j with
        | none => v'.ret_ = false
        | some i => v'.ret_ = true ∧ v'.wid = (i : Int) + 1 ∧
            (v'.index, v'.ok) =
              (if !(parsenum (sl f 1 i)).2.1 || !(parsenum (sl f 1 i)).2.2.isEmpty then ((0 : Int), false)
               else (((parsenum (sl f 1 i)).1 : Int) - 1, true)) := by
  intro fuel
  induction fuel with
  | zero => intro v j _ _ _ _ hf; omega
  | succ fuel ih =>
    intro v j hfmt hi hr hj hf
    unfold parseArgNumber.loop1 closeIdx
    simp only [hfmt, hi, goInRange_nat, goIndex_nat, goLen, Int.ofNat_lt, Option.pure_def, Option.bind_eq_bind]
    by_cases hlt : j < f.length
    · by_cases hx : f.getD j 0 = 0x5D
      · have hpn : Trans.parsenum f (1 : Int) (j : Int) = _ := parsenum_translated f 1 j (Nat.le_of_lt hlt)
        simp only [hlt, hx, hpn, newi_bne j _ hj, decide_true, Bool.not_true, Bool.false_eq_true, if_false, goGuard_true, Option.bind_some, beq_self_eq_true, if_true]
        split <;> exact ⟨_, rfl, rfl, rfl, rfl⟩
      · simp only [hlt, hx, show (f.getD j 0 == 93) = false from beq_eq_false_iff_ne.2 hx, decide_true, Bool.not_true, Bool.false_eq_true, if_false, goGuard_true, Option.bind_some]
        exact ih _ (j + 1) rfl (by simp) hr (Nat.le_succ_of_le hj) (fuel_step hf (Nat.lt_succ_self j) hlt)
    · simp only [hlt, decide_false, Bool.not_false, if_true, if_false]
      exact ⟨v, rfl, hr⟩
/-- **The translated `parseArgNumber`** returns, for every format, without an index out of range, what the model's
bracket scan and number parser give. -/
theorem parseArgNumber_translated (f : List Byte) :
    Trans.parseArgNumber f = some (parseArgNumberZ f) := by
  unfold Trans.parseArgNumber Trans.parseArgNumber.run parseArgNumberZ
  by_cases h : f.length < 3
  · have hc : (goLen f) < (3 : Int) := by unfold goLen; omega
    simp [h, hc]
  · have hc : ¬ ((f.length : Int) < (3 : Int)) := by omega
    obtain ⟨v', hv, hm⟩ := parseArgNumber_loop1_spec f (f.length + 1) { format := f, i := 1 } 1 rfl rfl rfl (by omega) (by omega)
    rw [if_neg h, scanBracket_closeIdx f (f.length + 1) 1 1 (by omega)]
    simp only [goLen, hc, decide_false, Bool.false_eq_true, if_false, Option.pure_def, Option.bind_eq_bind, Int.toNat_natCast]
    simp only [hv, Option.bind_some]
    cases hci : closeIdx f (f.length + 1) 1 with
    | none =>
      rw [hci] at hm
      simp only at hm
      simp [hm]
    | some i =>
      rw [hci] at hm
      obtain ⟨hr, hw, hio⟩ := hm
      have hb := closeIdx_bounds f _ 1 i hci
      have h1 : v'.index = (v'.index, v'.ok).1 := rfl
      have h2 : v'.ok = (v'.index, v'.ok).2 := rfl
      simp only [hr, if_true, Option.map_some, Option.some.injEq]
      rw [h1, h2, hio, hw]
      split <;> simp <;> omega

/-- Go's `argNumber` (print.go), transcribed over the translated `parseArgNumber`. -/
def argNumberGo (p : PP) (argNum : Nat) (f : List Byte) (numArgs : Nat) : Option (PP × Nat × List Byte × Bool) :=
  match f with
  | 0x5B :: _ => do
    let p := { p with reordered := true }
    let (index, wid, ok) ← Trans.parseArgNumber f
    if ok && decide (0 ≤ index) && decide (index < (numArgs : Int)) then some (p, index.toNat, f.drop wid.toNat, true)
    else some ({ p with goodArgNum := false }, argNum, f.drop wid.toNat, ok)
  | _ => some (p, argNum, f, false)

/-- **The model's `argNumber` is Go's `argNumber` on the translated `parseArgNumber`**: explicit argument indexes
(`[n]`, also `[0]`, out-of-range and unparsable ones) are decided as the source decides them. -/
theorem argNumber_translated (p : PP) (argNum : Nat) (f : List Byte) (numArgs : Nat) :
    argNumberGo p argNum f numArgs = some (argNumber p argNum f numArgs) := by
  unfold argNumberGo argNumber
  split
  · rename_i rest
    rw [parseArgNumber_translated]
    simp only [Option.bind_eq_bind, Option.bind_some]
    by_cases h : (0x5B :: rest : List Byte).length < 3
    · have hz : parseArgNumberZ (0x5B :: rest) = (0, 1, false) := by unfold parseArgNumberZ; rw [if_pos h]
      rw [hz, if_pos h]
      simp
    · cases hs : scanBracket ((0x5B :: rest : List Byte).drop 1) 1 with
      | none =>
        have hz : parseArgNumberZ (0x5B :: rest) = (0, 1, false) := by unfold parseArgNumberZ; rw [if_neg h, hs]
        rw [hz, if_neg h]
        simp
      | some ic =>
        obtain ⟨inner, consumed⟩ := ic
        rcases hp : parsenum inner with ⟨w, ok, rem⟩
        have hz : parseArgNumberZ (0x5B :: rest) =
            if (!ok || !rem.isEmpty) = true then ((0 : Int), (consumed : Int), false) else ((w : Int) - 1, (consumed : Int), true) := by
          unfold parseArgNumberZ; rw [if_neg h, hs]; simp only [hp]
        rw [hz, if_neg h]
        simp only [hp]
        cases ok <;> cases hre : rem.isEmpty <;> simp
        by_cases hw : 1 ≤ w ∧ w - 1 < numArgs
        · have : (0 : Int) ≤ (w : Int) - 1 ∧ (w : Int) - 1 < (numArgs : Int) := by omega
          simp [hw, this]
          omega
        · have : ¬ ((0 : Int) ≤ (w : Int) - 1 ∧ (w : Int) - 1 < (numArgs : Int)) := by omega
          simp [hw]
          intro h1 h2; exfalso; omega
  · rename_i hne
    split
    · rename_i tail; exact (hne tail rfl).elim
    · rfl

end Redact
