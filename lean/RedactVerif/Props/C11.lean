import RedactVerif.Props.L2
import RedactVerif.Props.FactsClassify
import RedactVerif.Props.FactsSkelPrinter
import RedactVerif.Proofs.Contain
import RedactVerif.Props.TransParse
/-
C11 — printing never fails: all inputs accepted, user-method panics contained.

A Lean function cannot crash: absence of Go *runtime* panics (slice bounds,
reflect misuse) is as good as the model's transcription plus the correspondence
(which treats any recovered panic of the real code as an output to be matched)
and the real-code enumeration of every rune/byte/JoinTo operand.
What is proved on the model:

* the buffer operations are total for every rune (surrogates, negative,
  > MaxRune: `writeRune_any`, the D1 fix) and every byte, and keep the invariant;
* `catchPanic` (`panic_in_place`): a panic raised by a user method — after any
  amount of output already written through the SafePrinter — is reported in place
  as `%!verb(PANIC=<method> method: <payload>)`, the payload being printed by
  `printArg` in the restored state (so it is enveloped unless itself declared
  safe), flags restored afterwards; text before it is untouched (the buffer only
  grows through writes), and the frame theorem covers what follows;
* `nil_receiver`: a nil pointer receiver yields `<nil>`;
* the ONLY way a print call panics is a panic raised while a panic payload is being printed
  (nested panic), exactly as in fmt: such a panic propagates (`nested_panic_propagates`), and
  without one no panic leaves a print call (`sprint_contains_panics` and the theorems after it).
-/
namespace Redact

/-- Every rune is accepted: the write appends `utf8.EncodeRune`'s bytes (U+FFFD for invalid runes). -/
theorem writeRune_any (b : Buffer) (r : Int) (hi : Inv b) (hm : b.mode ≠ .raw) :
    Inv (b.writeRune r) ∧ (b.writeRune r).buf = b.startWrite.buf ++ encodeRune r :=
  ⟨inv_writeRune_nr b r hi hm, by simp [Buffer.writeRune, Buffer.append]⟩

theorem encodeRune_invalid (r : Int) (h : runeLen r = none) : encodeRune r = runeErrorB := by
  simp [encodeRune, h]

/-- Surrogates, negative and out-of-range runes are invalid, hence written as U+FFFD. -/
theorem runeLen_invalid (r : Int) (h : r < 0 ∨ (0xD800 ≤ r ∧ r ≤ 0xDFFF) ∨ 0x10FFFF < r) : runeLen r = none := by
  simp only [runeLen, Bool.and_eq_true, decide_eq_true_eq]
  grind

/-- **The panic report**: what `catchPanic` does with a method that panicked in
state `p` with `payload` (receiver not a nil pointer, no panic report in progress). -/
theorem panic_in_place (env : Env) (n : Nat) (p0 p : PP) (arg : Val) (verb : Nat) (method : List Byte) (payload : Val)
    (hnp : p.panicking = false) :
    catchPanic env (n + 1) p0 arg verb method false (.raised p payload) =
      (printArg env n
        { (((({ p with f := p.f.clear }.w percentBang).wr verb).w ([0x28, 0x50, 0x41, 0x4E, 0x49, 0x43, 0x3D] /- "(PANIC=" -/ : List UInt8)).w method).w ([0x20, 0x6D, 0x65, 0x74, 0x68, 0x6F, 0x64, 0x3A, 0x20] /- " method: " -/ : List UInt8)
          with panicking := true } payload 118).bind
        fun q => .ok { ({ q with panicking := false }.wb 0x29) with
                        f := ({ q with panicking := false }.wb 0x29).f.restoreFlags p.f } := by
  simp [catchPanic, hnp]

theorem nil_receiver (env : Env) (n : Nat) (p0 p : PP) (arg : Val) (verb : Nat) (method : List Byte) (payload : Val) :
    catchPanic env (n + 1) p0 arg verb method true (.raised p payload) = .ok (p.w nilAngle) := by
  simp [catchPanic]

theorem no_panic_no_report (env : Env) (n : Nat) (p0 p : PP) (arg : Val) (verb : Nat) (method : List Byte) (nr : Bool) :
    catchPanic env (n + 1) p0 arg verb method nr (.ok p) = .ok p := by
  simp [catchPanic]

/-- A panic raised while a panic payload is being printed propagates (as in fmt). -/
theorem nested_panic_propagates (env : Env) (n : Nat) (p0 p : PP) (arg : Val) (verb : Nat) (method : List Byte)
    (payload : Val) (hp : p.panicking = true) :
    catchPanic env (n + 1) p0 arg verb method false (.raised p payload) = .panic p.buf payload := by
  simp [catchPanic, hp]

/-- The user-method outcome contained, with the frame: after the report the
buffer invariant holds and mode/override are those of the call site. -/
theorem panic_contained (env : Env) (he : EnvOk env) (n : Nat) (p0 p : PP) (hp : Pre p) (arg : Val) (verb : Nat)
    (method : List Byte) (nr : Bool) (payload : Val) (hpl : ValOk payload) (q : PP)
    (h : catchPanic env n p0 arg verb method nr (.raised p payload) = .ok q) :
    Inv q.buf ∧ q.buf.mode = p.buf.mode ∧ q.override = p.override :=
  ((spec_all env he n).catchPanic p0 p arg verb method nr (.raised p payload) hp
    (show G p p ∧ ValOk payload from ⟨G.refl hp, hpl⟩)).1 q h


/-- **A panic that leaves a nested printer** (raised while the nested printer was printing a
panic value, hence re-raised there) does not escape the enclosing method: the shared buffer is
handed back, its mode restored, and the panic continues as a panic of the method that called
`Print` — which the enclosing `catchPanic` reports like any other (D11). -/
theorem nested_panic_handed_back (env : Env) (n : Nat) (p : PP) (args : Vals) (k : Script) (b : Buffer) (pl : Val)
    (h : doPrint env n { buf := p.buf, override := p.override } args.toList = .panic b pl) :
    runScript env (n + 1) p (.print args k) = .raised { p with buf := b.setMode p.buf.mode } pl := by
  simp [runScript, h]

/-- …and the buffer handed back satisfies the invariant, in the caller's mode: the report that
follows is written into a well-formed prefix. -/
theorem nested_panic_buffer_ok (env : Env) (he : EnvOk env) (n : Nat) (p : PP) (hp : Pre p) (args : Vals) (ha : ValsOk args)
    (b : Buffer) (pl : Val) (h : doPrint env n { buf := p.buf, override := p.override } args.toList = .panic b pl) :
    Inv (b.setMode p.buf.mode) ∧ (b.setMode p.buf.mode).mode = p.buf.mode ∧ ValOk pl := by
  have hd := ((spec_all env he n).doPrint { buf := p.buf, override := p.override } args.toList hp (listOk_of_valsOk _ ha)).2 b pl h
  exact ⟨inv_setMode _ _ hd.1, setMode_mode _ _, hd.2⟩

/-! ### Containment, globally (`Proofs/Contain.lean`) -/
theorem not_panic_of_nb {r : Res} (h : NB r) : ∀ b pl, r ≠ .panic b pl := by
  intro b pl he
  cases h <;> cases he

/-- **User-method panics are contained, globally.** With an error hook that does not panic: if every
value a user method panics with (at any depth: inside containers, wrappers, nested `Print/Printf`
calls of other methods) can itself be printed without a panic — its own methods do not panic —
then no panic leaves `Sprint`: every panic is caught and reported in place. Contrapositive of the
property's "only a panic raised while printing that payload propagates". -/
theorem sprint_contains_panics (env : Env) (hf : EnvPF env) (args : List Val) (hv : ListPB args) :
    ∀ b pl, sprint env args ≠ .panic b pl :=
  not_panic_of_nb ((bspec_all env hf defaultFuel).doPrint newPP args rfl hv)

theorem sprintf_contains_panics (env : Env) (hf : EnvPF env) (f : List Byte) (args : List Val) (hv : ListPB args) :
    ∀ b pl, sprintf env f args ≠ .panic b pl :=
  not_panic_of_nb ((bspec_all env hf defaultFuel).doPrintf newPP f args rfl hv)

theorem helperForErrorf_contains_panics (env : Env) (hf : EnvPF env) (f : List Byte) (args : List Val) (hv : ListPB args) :
    ∀ b pl, helperForErrorf env f args ≠ .panic b pl :=
  not_panic_of_nb ((bspec_all env hf defaultFuel).doPrintf _ f args rfl hv)

/-- Every function of the printer, entered outside a panic report, returns outside one. -/
theorem printArg_contains_panics (env : Env) (hf : EnvPF env) (n : Nat) (p : PP) (hp : p.panicking = false) (v : Val)
    (hv : ValPB v) (verb : Nat) :
    (∀ b pl, printArg env n p v verb ≠ .panic b pl) ∧ ∀ q, printArg env n p v verb = .ok q → q.panicking = false := by
  have h := (bspec_all env hf n).printArg p v verb hp hv
  refine ⟨not_panic_of_nb h, fun q hq => ?_⟩
  rw [hq] at h
  cases h with
  | ok hk => exact hk

/-- Values whose methods never panic: no panic leaves any function, whatever the printer's state. -/
theorem panic_free_values_never_panic (env : Env) (hf : EnvPF env) (n : Nat) (p : PP) (v : Val) (hv : ValPF v) (verb : Nat) :
    ∀ b pl, printArg env n p v verb ≠ .panic b pl := by
  intro b pl he
  have h := (aspec_all env hf n).printArg p v verb hv
  rw [he] at h
  cases h

/-! Premises satisfiable: a Stringer that panics with a string, inside a slice. -/
example : ListPB [.slice ([0x5B, 0x5D, 0x69, 0x6E, 0x74, 0x65, 0x72, 0x66, 0x61, 0x63, 0x65, 0x20, 0x7B, 0x7D] /- "[]interface {}" -/ : List UInt8) false true
    (.cons (.meth { stringer := true } ([0x6D, 0x61, 0x69, 0x6E, 0x2E, 0x53] /- "main.S" -/ : List UInt8) false false false 0
      (.safeString [0x61] (.panic (.leaf 1 .str ([0x73, 0x74, 0x72, 0x69, 0x6E, 0x67] /- "string" -/ : List UInt8) none false false))) .nil) .nil)] := by
  intro v hv
  simp only [List.mem_singleton] at hv
  subst hv
  simp [ValPB, ValsPB, ScriptPB, ValPF]

/-! ### Every format string is accepted by the directive parser's number scanners

Stated on the functions as the translator reads them off `internal/rfmt/print.go` on every run
(`Generated/Trans.lean`; equality with the model: Props/TransParse.lean): a result `some …` says that no
index expression of the source is out of range and that every loop ends. -/

/-- `parsenum(s, start, end)` never indexes out of range, for any string and any window inside it. -/
theorem translated_parsenum_total (s : List Byte) (start e : Nat) (he : e ≤ s.length) :
    ∃ r, Trans.parsenum s (start : Int) (e : Int) = some r :=
  ⟨_, parsenum_translated s start e he⟩

/-- `parseArgNumber(format)` never indexes out of range, for any format — `[`, `[]`, `[0]`, `[99999999999999999999]`,
an unclosed bracket, … -/
theorem translated_parseArgNumber_total (f : List Byte) : ∃ r, Trans.parseArgNumber f = some r :=
  ⟨_, parseArgNumber_translated f⟩

theorem argNumber_in_range (p : PP) (argNum : Nat) (f : List Byte) (numArgs : Nat) :
    (argNumber p argNum f numArgs).1.goodArgNum = true →
      (argNumber p argNum f numArgs).2.1 < numArgs ∨ (argNumber p argNum f numArgs).2.1 = argNum := by
  unfold argNumber
  split
  · split
    split
    · simp
    · split
      split
      · split
        · rename_i hw
          intro _; left; simp only; omega
        · simp
      · simp
  · intro _; right; rfl

/-- An explicit argument index is used only when it denotes an operand: `[0]` (index −1), an index beyond the operand
list, or one too large to parse, never select an operand (Go's `argNumber` on the translated `parseArgNumber`). -/
theorem translated_argNumber_in_range (p : PP) (argNum : Nat) (f : List Byte) (numArgs : Nat) :
    ∃ r, argNumberGo p argNum f numArgs = some r ∧ (r.1.goodArgNum = true → r.2.1 < numArgs ∨ r.2.1 = argNum) :=
  ⟨_, argNumber_translated p argNum f numArgs, argNumber_in_range p argNum f numArgs⟩

example : Trans.parseArgNumber [0x5B, 0x30, 0x5D] = some (-1, 3, true) := by decide
example : Trans.parseArgNumber [0x5B, 0x32, 0x5D, 0x64] = some (1, 3, true) := by decide
example : Trans.parseArgNumber [0x5B, 0x32] = some (0, 1, false) := by decide
example : Trans.parsenum [0x31, 0x32, 0x78] 0 3 = some (12, true, 2) := by decide

end Redact
