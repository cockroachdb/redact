import RedactVerif.Generated.Trans
import RedactVerif.Proofs.Escape
import RedactVerif.Proofs.Utf8Valid
/-
The tie for `internal/buffer/buffer.go` by translation. `Generated/Trans.lean` holds every method of
`buffer.Buffer` except the capacity management, as the translator reads them off /repo on every
run; here each is proved to compute what the hand-written model (`Model/Buffer.lean`, the one
`Inv`, `KInv`, `BRel`, C01/C02/C03/C09/C13 are about) computes, on every model state.

Not translated (and so tied by the B-stream correspondence only): `tryGrowByReslice`, `grow`,
`Grow`, `Cap`, `clone`, `makeSlice` — the idiom `m, ok := b.tryGrowByReslice(n); if !ok { m = b.grow(n) }`
is read as "extend by n bytes, m = old length" (`goExtend`); `TakeRedactableString` (the same body as
`TakeRedactableBytes` but for an `unsafe.Pointer` conversion); aliasing between a by-value copy and
the original's backing array (C13's accessor purity: hidden state compared by the correspondence).
-/
namespace Redact

def modeInt : Mode → Int
  | .unsafeEsc => 0
  | .safeEsc => 1
  | .raw => 2

/-- A model state as the Go struct. -/
@[reducible] def conc (b : Buffer) : GoBuffer :=
  { buf := b.buf, validUntil := (b.validUntil : Int), mode := modeInt b.mode, markerOpen := b.markerOpen }

theorem modeInt_eq_zero (m : Mode) : (modeInt m == 0) = decide (m = .unsafeEsc) := by cases m <;> decide
theorem modeInt_eq_one (m : Mode) : (modeInt m == 1) = decide (m = .safeEsc) := by cases m <;> decide
theorem modeInt_eq_two (m : Mode) : (modeInt m == 2) = decide (m = .raw) := by cases m <;> decide
theorem modeInt_inj (a b : Mode) : (modeInt a == modeInt b) = decide (a = b) := by cases a <;> cases b <;> decide

theorem length_of_hasSuffix {l s : List Byte} (h : hasSuffix l s = true) : s.length ≤ l.length := by
  rw [hasSuffix_iff] at h
  exact h.length_le

theorem goSliceTo_dropLast {l : List Byte} {s : List Byte} (h : hasSuffix l s = true) (hs : s.length = 3) :
    goSliceTo l (goLen l - 3) = dropLast 3 l := by
  have hl := length_of_hasSuffix h
  unfold goSliceTo goLen dropLast
  have h1 : (0 : Int) ≤ (l.length : Int) - 3 := by omega
  have h2 : ((l.length : Int) - 3).toNat = l.length - 3 := by omega
  rw [h2]
  simp only [h1, true_and]
  have h3 : l.length - 3 ≤ l.length := by omega
  simp [h3]

/-- The grow-and-copy idiom appends: `n` is the length of `src`, however it was computed. -/
theorem copy_extend' (l src : List Byte) (n : Int) (hn : n.toNat = src.length) :
    goCopyAt (goExtend l n) (goLen l) src = l ++ src := by
  unfold goCopyAt goExtend goLen
  simp only [Int.toNat_natCast, List.length_append, List.length_replicate, hn]
  have h1 : (0 : Int) ≤ (l.length : Int) ∧ l.length ≤ l.length + src.length := ⟨by omega, by omega⟩
  rw [if_pos h1]
  simp

theorem copy_extend (l src : List Byte) : goCopyAt (goExtend l (goLen src)) (goLen l) src = l ++ src :=
  copy_extend' l src _ (Int.toNat_natCast _)

theorem copyN_extend (l src : List Byte) : goCopyN (goExtend l (goLen src)) (goLen l) src = (src.length : Int) := by
  unfold goCopyN goExtend goLen
  simp

theorem setAt_extend (l : List Byte) (x : Byte) : goSetAt (goExtend l 1) (goLen l) x = l ++ [x] := by
  unfold goSetAt goExtend goLen
  simp

theorem escapeToEnd_translated (b : Buffer) (nl : Bool) :
    Trans.escapeToEnd (conc b) nl = conc (b.escapeToEnd nl) := by
  simp [Trans.escapeToEnd, Id.run, conc, Buffer.escapeToEnd, goInternalEscapeBytes, goLen]
  rfl

theorem endRedactable_translated (b : Buffer) : Trans.endRedactable (conc b) = conc b.endRedactable := by
  unfold Trans.endRedactable Buffer.endRedactable
  by_cases h0 : b.buf = []
  · simp [Id.run, conc, goLen, h0]
    rfl
  · have hne : ¬ ((b.buf.length : Int) = 0) := by
      intro h; apply h0; exact List.length_eq_zero_iff.mp (by omega)
    have hne' : b.buf.isEmpty = false := by simpa using h0
    by_cases hs : hasSuffix b.buf startB = true
    · have h3 := goSliceTo_dropLast hs (by decide)
      simp only [goLen] at h3
      have hs' : hasSuffix b.buf [226, 128, 185] = true := hs
      simp only [Id.run, conc, goLen, goHasSuffix, hne, hne', hs', hs, h3, beq_iff_eq, if_false, if_true, Bool.false_eq_true]
      rfl
    · have hs' : ¬ hasSuffix b.buf [226, 128, 185] = true := hs
      have hc := copy_extend' b.buf endB 3 (by decide)
      simp only [goLen, endB] at hc
      simp only [Id.run, conc, goLen, goHasSuffix, hne, hne', hs', hs, hc, endB, beq_iff_eq, if_false, Bool.false_eq_true]
      rfl

theorem startRedactable_translated (b : Buffer) : Trans.startRedactable (conc b) = conc b.startRedactable := by
  unfold Trans.startRedactable Buffer.startRedactable
  by_cases hs : hasSuffix b.buf endB = true
  · have h3 := goSliceTo_dropLast hs (by decide)
    simp only [goLen] at h3
    have hs' : hasSuffix b.buf [226, 128, 186] = true := hs
    simp only [Id.run, conc, goLen, goHasSuffix, hs', hs, h3, if_true]
    rfl
  · have hs' : ¬ hasSuffix b.buf [226, 128, 186] = true := hs
    have hc := copy_extend b.buf startB
    simp only [goLen, startB] at hc
    simp only [Id.run, conc, goLen, goHasSuffix, hs', hs, hc, startB, if_false, Bool.false_eq_true]
    rfl

theorem startWrite_translated (b : Buffer) : Trans.startWrite (conc b) = conc b.startWrite := by
  unfold Trans.startWrite Buffer.startWrite
  by_cases hc : b.mode = .unsafeEsc ∧ b.markerOpen = false
  · simp only [Id.run, Bool.not_false, if_true, hc, and_self, startRedactable_translated]
    rfl
  · have e : (((conc b).mode == (0 : Int)) && !(conc b).markerOpen) = false := by
      rw [show (conc b).mode = modeInt b.mode from rfl, modeInt_eq_zero]
      show (decide (b.mode = .unsafeEsc) && !b.markerOpen) = false
      cases hm : b.markerOpen <;> simp_all
    simp only [Id.run, e, hc, if_false, Bool.false_eq_true]
    rfl

/-! The same statements on explicit constructors (the form in which callers meet them). -/
theorem escapeToEnd_translated' (buf : List Byte) (vu : Nat) (m : Mode) (mo nl : Bool) :
    Trans.escapeToEnd { buf := buf, validUntil := (vu : Int), mode := modeInt m, markerOpen := mo } nl =
      conc (Buffer.escapeToEnd ⟨buf, vu, m, mo⟩ nl) := escapeToEnd_translated ⟨buf, vu, m, mo⟩ nl
theorem endRedactable_translated' (buf : List Byte) (vu : Nat) (m : Mode) (mo : Bool) :
    Trans.endRedactable { buf := buf, validUntil := (vu : Int), mode := modeInt m, markerOpen := mo } =
      conc (Buffer.endRedactable ⟨buf, vu, m, mo⟩) := endRedactable_translated ⟨buf, vu, m, mo⟩
theorem startRedactable_translated' (buf : List Byte) (vu : Nat) (m : Mode) (mo : Bool) :
    Trans.startRedactable { buf := buf, validUntil := (vu : Int), mode := modeInt m, markerOpen := mo } =
      conc (Buffer.startRedactable ⟨buf, vu, m, mo⟩) := startRedactable_translated ⟨buf, vu, m, mo⟩
theorem startWrite_translated' (buf : List Byte) (vu : Nat) (m : Mode) (mo : Bool) :
    Trans.startWrite { buf := buf, validUntil := (vu : Int), mode := modeInt m, markerOpen := mo } =
      conc (Buffer.startWrite ⟨buf, vu, m, mo⟩) := startWrite_translated ⟨buf, vu, m, mo⟩

theorem finalize_translated (b : Buffer) : Trans.finalize (conc b) = conc b.finalize := by
  obtain ⟨buf, vu, m, mo⟩ := b
  cases m <;>
    simp [Trans.finalize, Buffer.finalize, Id.run, modeInt_eq_two, modeInt_eq_zero, escapeToEnd_translated',
      endRedactable_translated', goLen] <;> cases mo <;> rfl

theorem finalize_translated' (buf : List Byte) (vu : Nat) (m : Mode) (mo : Bool) :
    Trans.finalize { buf := buf, validUntil := (vu : Int), mode := modeInt m, markerOpen := mo } =
      conc (Buffer.finalize ⟨buf, vu, m, mo⟩) := finalize_translated ⟨buf, vu, m, mo⟩

theorem setMode_translated (b : Buffer) (m' : Mode) : Trans.SetMode (conc b) (modeInt m') = conc (b.setMode m') := by
  obtain ⟨buf, vu, m, mo⟩ := b
  cases m <;> cases m' <;>
    simp [Trans.SetMode, Buffer.setMode, Id.run, modeInt_inj, modeInt_eq_one, modeInt_eq_zero, escapeToEnd_translated',
      endRedactable_translated', goLen] <;> cases mo <;> rfl

theorem reset_translated (b : Buffer) : Trans.Reset (conc b) = conc b.reset := by
  simp [Trans.Reset, Buffer.reset, Buffer.init, Id.run, goSliceTo]
  rfl

theorem write_translated (b : Buffer) (p : List Byte) :
    Trans.Write (conc b) p = (conc (b.write p), ((p.length : Int), ())) := by
  obtain ⟨buf, vu, m, mo⟩ := b
  simp only [Trans.Write, Id.run, startWrite_translated', Buffer.write, Buffer.append]
  generalize Buffer.startWrite ⟨buf, vu, m, mo⟩ = b1
  simp only [copy_extend, copyN_extend]
  rfl

/-- `WriteString` has `Write`'s body. -/
theorem writeString_translated (b : Buffer) (p : List Byte) :
    Trans.WriteString (conc b) p = (conc (b.write p), ((p.length : Int), ())) := write_translated b p

theorem writeByte_cond : ∀ s : Byte,
    (((decide (s ≥ (128 : UInt8))) || (s == goIndex ([0xE2, 0x80, 0xB9] : List UInt8) (0 : Int))) ||
      (s == goIndex ([0xE2, 0x80, 0xBA] : List UInt8) (0 : Int))) = decide (s ≥ 0x80) := by
  apply byte_forall; decide +kernel

theorem writeByte_translated (b : Buffer) (x : Byte) :
    Trans.WriteByte (conc b) x = (conc (b.writeByte x), ()) := by
  obtain ⟨buf, vu, m, mo⟩ := b
  simp only [Trans.WriteByte, Id.run, startWrite_translated', Buffer.writeByte, writeByte_cond]
  generalize Buffer.startWrite ⟨buf, vu, m, mo⟩ = b1
  obtain ⟨buf1, vu1, m1, mo1⟩ := b1
  by_cases hc : m1 = .unsafeEsc ∧ x ≥ 0x80
  · obtain ⟨rfl, hx⟩ := hc
    have hw := writeString_translated ⟨buf1, vu1, .unsafeEsc, mo1⟩ escB
    simp only [escB] at hw
    simp only [hx, and_self, if_true, hw]
    rfl
  · have e : ((modeInt m1 == (0 : Int)) && decide (x ≥ 0x80)) = false := by
      rw [modeInt_eq_zero]
      by_cases h1 : m1 = .unsafeEsc
      · have : ¬ x ≥ 0x80 := fun h => hc ⟨h1, h⟩
        simp [h1, this]
      · simp [h1]
    simp only [e, hc, if_false, Bool.false_eq_true, setAt_extend, Buffer.append]
    rfl

theorem goRuneLen_eq (r : Int) :
    goRuneLen r = (match runeLen r with | none => -1 | some k => (k : Int)) := by
  unfold goRuneLen runeLen
  by_cases a : r < 0
  · simp [a]
  · by_cases b : r < 0x80
    · have b' : r ≤ 0x7F := by omega
      simp [a, b, b']
    · have b' : ¬ r ≤ 0x7F := by omega
      by_cases c : r < 0x800
      · have c' : r ≤ 0x7FF := by omega
        simp [a, b, b', c, c']
      · have c' : ¬ r ≤ 0x7FF := by omega
        by_cases d : 0xD800 ≤ r ∧ r ≤ 0xDFFF
        · simp [a, b, b', c, c', d.1, d.2]
        · by_cases e : r < 0x10000
          · have e' : r ≤ 0xFFFF := by omega
            simp [a, b, b', c, c', d, e, e']
          · have e' : ¬ r ≤ 0xFFFF := by omega
            by_cases f : r ≤ 0x10FFFF <;> simp [a, b, b', c, c', d, e, e', f]

/-- `utf8.RuneLen` (with `RuneError`'s length for invalid runes, as `WriteRune` computes it) is the
length of what `utf8.EncodeRune` writes. -/
theorem encodeRune_length (r : Int) :
    (if goRuneLen r < 0 then goRuneLen 65533 else goRuneLen r).toNat = (encodeRune r).length := by
  have h65533 : goRuneLen 65533 = 3 := by decide
  rw [h65533, goRuneLen_eq]
  rcases runeLen_cases r with h | ⟨h, _⟩ | ⟨h, _⟩ | ⟨h, _⟩ | ⟨h, _⟩ <;> simp [encodeRune, h, runeErrorB]

theorem writeRune_translated (b : Buffer) (r : Int) :
    Trans.WriteRune (conc b) r = (conc (b.writeRune r), ()) := by
  obtain ⟨buf, vu, m, mo⟩ := b
  simp only [Trans.WriteRune, Id.run, startWrite_translated', Buffer.writeRune, Buffer.append]
  generalize Buffer.startWrite ⟨buf, vu, m, mo⟩ = b1
  have hl := encodeRune_length r
  have hc := copy_extend' b1.buf (encodeRune r) (if goRuneLen r < 0 then goRuneLen 65533 else goRuneLen r) hl
  by_cases hneg : goRuneLen r < 0
  · simp only [hneg, if_true, decide_true] at hc ⊢
    simp only [goEncodeRune, hc]
    rfl
  · simp only [hneg, if_false, decide_false, Bool.false_eq_true] at hc ⊢
    simp only [goEncodeRune, hc]
    rfl

theorem redactableBytes_translated (b : Buffer) : Trans.RedactableBytes (conc b) = b.redactableBytes := by
  simp only [Trans.RedactableBytes, Id.run, finalize_translated, Buffer.redactableBytes]
  rfl

theorem redactableString_translated (b : Buffer) : Trans.RedactableString (conc b) = b.redactableBytes := by
  simp only [Trans.RedactableString, Id.run, finalize_translated, Buffer.redactableBytes]
  rfl

theorem string_translated (b : Buffer) : Trans.String (conc b) = b.string := by
  simp only [Trans.String, Id.run, finalize_translated, Buffer.string, goStripMarkers]
  rfl

theorem take_translated (b : Buffer) : Trans.TakeRedactableBytes (conc b) = (conc b.take.2, b.take.1) := by
  simp only [Trans.TakeRedactableBytes, Id.run, finalize_translated, Buffer.take]
  rfl

theorem len_translated (b : Buffer) : Trans.Len (conc b) = (conc b, (b.len : Int)) := by
  simp only [Trans.Len, Id.run, finalize_translated, Buffer.len, goLen]
  rfl

theorem getMode_translated (b : Buffer) : Trans.GetMode (conc b) = (conc b, modeInt b.mode) := rfl

/-- One call of the translated code, per operation of the model's alphabet (`Grow` and `Cap` are
capacity management, not translated: identity on what is observed). -/
def transStep (g : GoBuffer) : Op → GoBuffer
  | .setMode m => Trans.SetMode g (modeInt m)
  | .write p => (Trans.Write g p).1
  | .writeByte x => (Trans.WriteByte g x).1
  | .writeRune r => (Trans.WriteRune g r).1
  | .reset => Trans.Reset g
  | .take => (Trans.TakeRedactableBytes g).1
  | .grow _ => g
  | .accLen => (Trans.Len g).1
  | .accString => g
  | .accRedactable => g
  | .accMode => (Trans.GetMode g).1

def transRun (g : GoBuffer) (ops : List Op) : GoBuffer := ops.foldl transStep g

theorem transStep_conc (b : Buffer) (op : Op) : transStep (conc b) op = conc (b.step op).1 := by
  cases op <;> simp only [transStep, Buffer.step, setMode_translated, write_translated, writeByte_translated,
    writeRune_translated, reset_translated, take_translated, len_translated, getMode_translated]

/-- **Every sequence of calls of the translated methods computes the model's run.** -/
theorem transRun_conc (b : Buffer) (ops : List Op) : transRun (conc b) ops = conc (b.run ops) := by
  induction ops generalizing b with
  | nil => rfl
  | cons op r ih =>
    show transRun (transStep (conc b) op) r = conc (Buffer.run (b.step op).1 r)
    rw [transStep_conc]; exact ih _

end Redact
