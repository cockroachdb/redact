import RedactVerif.Props.C01
import RedactVerif.Props.FactsConsts
import RedactVerif.Props.FactsSkelBuffer
import RedactVerif.Props.TransEscape
import RedactVerif.Props.TransMarkers
/-
C10 — escaping removes every marker from arbitrary bytes and nothing else.

The byte-level scanner `escGo` (the Go loop of `InternalEscapeBytes`) is tied
to its token-level specification by `escGo_refines` (Proofs/Escape.lean) for
every output-so-far, every suffix and both line-splitting settings. This file
derives the statements of the property from it.
-/
namespace Redact

theorem straddles_nil_left (l : List Byte) : straddles [] l = false := by
  simp [straddles]

theorem tokenize_escGo_safe (l : List Byte) : tokenize (escGo false [] l) = escT (tokenize l) := by
  rw [escGo_refines false [] l (straddles_nil_left l), tokenize_nil, escTok_false_eq, List.nil_append]

/-- `EscapeMarkers` (a regexp in Go) is the scanner in safe mode from offset 0. -/
theorem escapeMarkers_eq_escGo (l : List Byte) : escapeMarkers l = escGo false [] l := by
  unfold escapeMarkers
  rw [← tokenize_escGo_safe, untok_tokenize]

/-- **Specification of `EscapeMarkers`**: the result tokenises to the input's
tokens with every marker replaced by `?` — positions and all other bytes untouched. -/
theorem escapeMarkers_spec (l : List Byte) : tokenize (escapeMarkers l) = escT (tokenize l) := by
  rw [escapeMarkers_eq_escGo, tokenize_escGo_safe]

theorem escT_no_marker (t : List Tok) : ∀ x ∈ escT t, x.isMarker = false := by
  induction t with
  | nil => simp [escT]
  | cons y r ih => cases y <;> simp [escT, Tok.isMarker] <;> exact ih

/-- No marker survives `EscapeMarkers`, for every byte string. -/
theorem escapeMarkers_no_marker (l : List Byte) : ∀ x ∈ tokenize (escapeMarkers l), x.isMarker = false := by
  rw [escapeMarkers_spec]; exact escT_no_marker _

theorem escT_idem (t : List Tok) : escT (escT t) = escT t := by
  induction t with
  | nil => simp [escT]
  | cons y r ih => cases y <;> simp [escT, ih]

theorem escapeMarkers_idem (l : List Byte) : escapeMarkers (escapeMarkers l) = escapeMarkers l := by
  apply tokenize_injective
  rw [escapeMarkers_spec, escapeMarkers_spec, escT_idem]

/-- Bytes that are not part of a marker are never altered: a marker-free input is returned unchanged. -/
theorem escapeMarkers_id_of_no_marker (l : List Byte) (h : ∀ x ∈ tokenize l, x.isMarker = false) :
    escapeMarkers l = l := by
  apply tokenize_injective
  rw [escapeMarkers_spec]
  generalize tokenize l = t at h
  induction t with
  | nil => simp [escT]
  | cons y r ih =>
    cases y with
    | s => simp [Tok.isMarker] at h
    | e => simp [Tok.isMarker] at h
    | b x => simp [escT]; exact ih (fun z hz => h z (by simp [hz]))

theorem stripT_escTok (nl : Bool) (out rest : List Tok) :
    stripT (escTok nl out rest) = stripT out ++ escT rest := by
  induction rest generalizing out with
  | nil => simp [escTok, escT]
  | cons t r ih =>
    cases t with
    | s => simp [escTok, ih, stripT_append, stripT, escT]
    | e => simp [escTok, ih, stripT_append, stripT, escT]
    | b x =>
      simp only [escTok]
      split
      · rename_i hx
        have hxl : x = LF := by simp at hx; exact hx.2
        -- taking back a start marker just written, or closing the envelope, changes no stripped text
        have hout : stripT (if out.getLast? = some .s then out.dropLast else out ++ [.e]) = stripT out := by
          split
          · rename_i hl
            conv => rhs; rw [eq_dropLast_append_of_getLast hl]
            simp [stripT_append, stripT]
          · simp [stripT_append, stripT]
        rw [ih, stripT_append, hout]
        simp [stripT, escT, hxl]
      · rw [ih]; simp [stripT_append, stripT, escT]

theorem stripT_escT (t : List Tok) : stripT (escT t) = escT t := by
  induction t with
  | nil => simp [escT, stripT]
  | cons y r ih => cases y <;> simp [escT, stripT, ih]

/-- **`EscapeBytes`**: with the markers stripped, the result is the escaped
payload, plus one `?` if the payload ends in a truncated multi-byte sequence. -/
theorem strip_escapeBytes (s : List Byte) :
    stripT (tokenize (escapeBytes s)) =
      escT (tokenize s) ++ (if tailBad (startB ++ s) then [.b 0x3F] else []) := by
  unfold escapeBytes
  have htake : (startB ++ s).take 3 = startB := by simp [startB]
  have hdrop : (startB ++ s).drop 3 = s := by simp [startB]
  have hg : goodT (tokenize ((startB ++ s).take 3)) = true := by rw [htake]; decide
  have hspec := (escapeBytesAt_spec (startB ++ s) 3 true hg).1
  rw [htake, hdrop] at hspec
  rw [tokenize_append_endB, stripT_append, hspec]
  split <;> simp [stripT_append, stripT_escTok, stripT, startB]

/-- Escaping is insensitive to how a payload is split across successive writes in the same mode. -/
theorem write_split (b : Buffer) (p q : List Byte) : (b.write p).write q = b.write (p ++ q) := by
  -- after the first write's `startWrite` the envelope is open (or the mode needs none): the second is a no-op
  have h2 : (b.startWrite.append p).startWrite = b.startWrite.append p := by
    apply startWrite_noop
    by_cases hc : b.mode = .unsafeEsc ∧ b.markerOpen = false
    · rw [startWrite_open b hc]
      simp only [Buffer.append, Buffer.startRedactable]
      split <;> simp
    · rw [startWrite_noop b hc]; simpa [Buffer.append] using hc
  simp only [Buffer.write]
  rw [h2]
  simp [Buffer.append]

/-! Non-vacuity -/
example : escapeMarkers ([0x61] ++ startB ++ [0xE2, 0x80] ++ endB) = [0x61, 0x3F, 0xE2, 0x80, 0x3F] := by decide
example : escapeBytes [0xE2, 0x0A, 0x80, 0xB9] = startB ++ [0xE2] ++ endB ++ [0x0A] ++ startB ++ [0x80, 0xB9, 0x3F] ++ endB := by decide

/-! ### The same, stated on the functions as the translator reads them off the source on every run
(`markers.EscapeMarkers`, `rfmt.EscapeBytes`; equality with the model: Props/TransMarkers.lean) -/

theorem translated_escapeMarkers_no_marker (l : List Byte) : ∀ x ∈ tokenize (Trans.M_EscapeMarkers l), x.isMarker = false := by
  rw [m_escapeMarkers]; exact escapeMarkers_no_marker l

theorem translated_escapeMarkers_spec (l : List Byte) : tokenize (Trans.M_EscapeMarkers l) = escT (tokenize l) := by
  rw [m_escapeMarkers]; exact escapeMarkers_spec l

theorem translated_escapeMarkers_idem (l : List Byte) : Trans.M_EscapeMarkers (Trans.M_EscapeMarkers l) = Trans.M_EscapeMarkers l := by
  simp only [m_escapeMarkers]; exact escapeMarkers_idem l

theorem escapeBytes_scanner_call (s : List Byte) :
    Trans.InternalEscapeBytes (startB ++ s) 3 true false = some (escapeBytesAt (startB ++ s) 3 true false) :=
  internalEscapeBytes_translated (startB ++ s) 3 true false (by simp [startB])

theorem translated_escapeBytes_wf (s : List Byte) : Obtainable (Trans.EscapeBytes s) := by
  rw [escapeBytes_translated]; exact escapeBytes_wf s

example : Trans.EscapeBytes [0xE2, 0x0A, 0x80, 0xB9] = startB ++ [0xE2] ++ endB ++ [0x0A] ++ startB ++ [0x80, 0xB9, 0x3F] ++ endB := by decide

end Redact
