import RedactVerif.Props.C01
import RedactVerif.Props.L2
import RedactVerif.Proofs.FuelMono
import RedactVerif.Proofs.Clean
import RedactVerif.Props.C09
import RedactVerif.Props.FactsSkelPrinter
import RedactVerif.Props.FactsSkelWriters
/-
C16 — all entry points agree on what a given argument list prints as.

In the model `Sprint`/`Fprint` (and `Sprintf`/`Fprintf`) are the same function
(`sprint`, `sprintf`); the F-variants' single `Write` and its `(n, err)` are I/O
and are checked on the real code (P-routes). What is proved here, for every
oracle, every argument list and every format:

* the StringBuilder route — the inner printer's finished output written in raw
  mode into an empty builder — hands back exactly that output
  (`builder_print_route`);
* the nested-printer route — `Sprintfn(func(w) { w.Print(args...) })` — gives
  byte for byte what `Sprint(args...)` gives (`nested_print_route`,
  `nested_printf_route`), provided the output does not end in a truncated
  multi-byte sequence (`tailBad … = false`): the nested route finalises the
  buffer once more when the outer printer restores its mode, and a second
  finalisation appends one more `?` after a dangling tail that was written raw
  (a pre-redacted operand ending in invalid UTF-8) — the one case in which
  `RedactableString()` is not idempotent.

* a StringBuilder that already holds text (`builder_route_lab`): after `Print`/`Printf` it reads,
  byte for byte and side for side, as what it held followed by what `Sprint`/`Sprintf` returns —
  agreement up to merging of adjacent envelopes, as equality of the labelled reading (C09).

* the SafeFormat route (`safeformat_print_route`, `safeformat_route_same_output`): `Sprint(v)` for a
  `v` whose `SafeFormat` calls `w.Print(args...)` runs, inside the nested printer, the very
  `doPrintLoop` that `Sprint(args...)` runs, on the same printer state, and hands its result back
  unchanged: the same bytes. In the model the inner run has seven units less fuel; fuel is a proof
  device, and results do not depend on it beyond its being enough (`Proofs/FuelMono.lean`:
  `mspec_all`, for all 21 functions), so at any common fuel that suffices for the longer route the
  two routes print the same (`safeformat_route`).

The same agreement for an outer printer that already holds text (nested-printer route) rests on
the correspondence (B streams with `pr` operations, P-model scripts with nested prints) and the
real-code route oracle.
-/
namespace Redact

theorem finalize_of_full (c : Buffer) (hfull : c.validUntil = c.buf.length) (ho : c.markerOpen = false)
    (htb : tailBad c.buf = false) : c.finalize.buf = c.buf := by
  by_cases hm : c.mode = .raw
  · rw [finalize_raw c hm ho]
  · rw [finalize_esc_closed c hm ho]
    show escapeBytesAt c.buf c.validUntil _ false = c.buf
    simp [escapeBytesAt, hfull, htb, escGo]

theorem finalize_setMode (b : Buffer) (hi : Inv b) (m : Mode) (htb : tailBad b.finalize.buf = false) :
    (b.setMode m).finalize.buf = b.finalize.buf := by
  by_cases hsame : b.mode = m
  · rw [setMode_same b m hsame]
  · have hb : (b.setMode m).buf = b.finalize.buf ∧ (b.setMode m).validUntil = (b.setMode m).buf.length
        ∧ (b.setMode m).markerOpen = false := by
      by_cases hm : b.mode = .raw
      · have ⟨_, ho⟩ := full_of_raw b hi hm
        rw [setMode_raw b m hsame hm ho, finalize_raw b hm ho]
        exact ⟨rfl, rfl, ho⟩
      · cases ho : b.markerOpen with
        | false =>
          rw [setMode_esc_closed b m hsame hm ho, finalize_esc_closed b hm ho]
          exact ⟨rfl, rfl, by simp [escapeToEnd_markerOpen, ho]⟩
        | true =>
          rw [setMode_esc_open b m hsame hm ho, finalize_esc_open b hm ho]
          have ⟨hf, _, _⟩ := escapeToEnd_full b hi
          rw [ho] at hf
          have ⟨_, _, hmo, _⟩ := endRedactable_full _ hf
          exact ⟨rfl, rfl, hmo⟩
    rw [finalize_of_full _ hb.2.1 hb.2.2 (by rw [hb.1]; exact htb), hb.1]

/-- **StringBuilder route.** `sb.Print(args...)` on an empty builder: the inner printer's
output `r`, written in raw mode, comes back unchanged. -/
theorem builder_print_route (r : List Byte) : (builderRun Buffer.init [.print r]).redactableBytes = r := by
  simp [builderRun, builderOps, Buffer.run, Buffer.step, Buffer.setMode, Buffer.init, Buffer.escapeToEnd,
    escapeBytesAt, escGo, tailBad, Buffer.write, Buffer.startWrite, Buffer.append, Buffer.redactableBytes,
    Buffer.finalize]

/-- The nested printer started by `SafePrinter.Print` on a fresh printer is the fresh printer. -/
theorem nested_np_eq : ({ buf := newPP.buf, override := newPP.override } : PP) = newPP := rfl

/-- **Nested-printer route.** `Sprintfn(func(w) { w.Print(args...) })` against `Sprint(args...)`. -/
theorem nested_print_route (env : Env) (he : EnvOk env) (n : Nat) (args : Vals) (ha : ValsOk args) (q : PP)
    (h : doPrint env (n + 1) newPP args.toList = .ok q) (htb : tailBad q.buf.redactableBytes = false) :
    ∃ q', runScript env (n + 2) newPP (.print args .done) = .ok q' ∧ q'.buf.redactableBytes = q.buf.redactableBytes := by
  have hq := ((spec_all env he (n + 1)).doPrint newPP args.toList pre_newPP (listOk_of_valsOk _ ha)).1 q h
  refine ⟨{ newPP with buf := q.buf.setMode newPP.buf.mode }, ?_, ?_⟩
  · simp only [runScript, nested_np_eq, h]
  · exact finalize_setMode q.buf hq.1 _ htb

theorem nested_printf_route (env : Env) (he : EnvOk env) (n : Nat) (f : List Byte) (args : Vals) (ha : ValsOk args) (q : PP)
    (h : doPrintf env (n + 1) newPP f args.toList = .ok q) (htb : tailBad q.buf.redactableBytes = false) :
    ∃ q', runScript env (n + 2) newPP (.printf f args .done) = .ok q' ∧ q'.buf.redactableBytes = q.buf.redactableBytes := by
  have hq := ((spec_all env he (n + 1)).doPrintf newPP f args.toList pre_newPP (listOk_of_valsOk _ ha)).1 q h
  refine ⟨{ newPP with buf := q.buf.setMode newPP.buf.mode }, ?_, ?_⟩
  · simp only [runScript, nested_np_eq, h]
  · exact finalize_setMode q.buf hq.1 _ htb

/-- The exception is real: a raw fragment ending in a lone continuation byte is finalised
twice by the nested route. -/
theorem second_finalisation_can_add (x : Byte) (hx : x = 0xBF) :
    let b := (Buffer.init.setMode .raw).write [0x61, x]
    b.redactableBytes = [0x61, x] ∧ (b.setMode .safeEsc).redactableBytes = [0x61, x, 0x3F] := by
  subst hx; decide

/-! Non-vacuity -/
example : (builderRun Buffer.init [.print (startB ++ [0x78] ++ endB)]).redactableBytes = startB ++ [0x78] ++ endB :=
  builder_print_route _

/-- **The StringBuilder route on a builder that already holds text**: whatever calls `ws` built the
content, `Print`/`Printf` (the inner printer's finished output `r`, written raw) makes the builder
read as its previous content followed by `r` — the same bytes on the same sides; only the envelope
boundary between the two may be merged. -/
theorem builder_route_lab (ws : List WOp) (r : List Byte) (hw : ∀ w ∈ ws, CleanW w)
    (hr : Obtainable r ∧ RuneEnd (tokenize r)) :
    labT (tokenize (builderRun Buffer.init (ws ++ [.print r])).redactableBytes) =
      labT (tokenize (builderRun Buffer.init ws).redactableBytes) ++ labT (tokenize r) := by
  have h2 : ∀ w ∈ ws ++ [.print r], CleanW w := by
    intro w hw'
    simp only [List.mem_append, List.mem_singleton] at hw'
    rcases hw' with h | rfl
    · exact hw w h
    · exact hr
  rw [builder_lab_partial _ h2, builder_lab_partial _ hw]
  simp [List.flatMap_append, labW, pendLab]

/-- The printer after `doPrint`'s prologue on a fresh printer. -/
def p1 : PP := { newPP with buf := newPP.buf.setMode .safeEsc }

theorem p1_np : ({ buf := p1.buf, override := p1.override } : PP) = p1 := rfl
theorem p1_setSafe : p1.buf.setMode .safeEsc = p1.buf := setMode_same _ _ (setMode_mode _ _)

/-- **SafeFormat route.** `Sprint(v)` where `v.SafeFormat(w, _)` does `w.Print(args...)`: the value is
dispatched to its SafeFormat method, whose nested printer runs the very `doPrintLoop` that
`Sprint(args...)` runs, on the same printer state, with seven units less fuel; its result is handed
back with the mode restored. (Fuel is a proof device: Go has no such bound.) -/
theorem safeformat_print_route (env : Env) (n : Nat) (ms : Methods) (ty : List Byte) (ret : Nat) (under : Val) (args : Vals)
    (hsf : ms.safeFormatter = true) (np' : PP)
    (h : doPrintLoop env n p1 args.toList 0 false = .ok np') :
    doPrint env (n + 1) newPP args.toList = .ok np' ∧
    doPrint env (n + 8) newPP [.meth ms ty false false false ret (.print args .done) under] =
      .ok { p1 with buf := np'.buf.setMode .safeEsc } := by
  have hov : newPP.override ≠ .ovUnsafe := by decide
  constructor
  · rw [doPrint]; simp only [hov, if_true, ne_eq, not_false_eq_true]; exact h
  · rw [doPrint]
    simp only [hov, if_true, ne_eq, not_false_eq_true]
    change doPrintLoop env (n + 7) p1 _ 0 false = _
    rw [doPrintLoop]
    simp only [gt_iff_lt, Nat.lt_irrefl, false_and, if_false]
    rw [printArg]
    simp only [isRegistered, isSafeValue, Bool.false_eq_true, if_false]
    rw [printArgBody]
    simp only [show ¬ (118 = 84) by decide, show ¬ (118 = 112) by decide, if_false]
    rw [handleMethods]
    have he : p1.erroring = false := rfl
    simp only [he, Bool.false_eq_true, if_false, show ¬ (118 = 119) by decide]
    rw [methDispatch]
    have ho1 : p1.override ≠ .ovUnsafe := by decide
    simp only [ho1, hsf, ne_eq, not_false_eq_true, and_self, if_true, Bool.false_eq_true, if_false]
    rw [runScript]
    simp only [p1_np]
    rw [doPrint]
    simp only [ho1, if_true, ne_eq, not_false_eq_true, p1_setSafe]
    have e : ({ p1 with buf := p1.buf } : PP) = p1 := rfl
    rw [e, h]
    simp only
    rw [runScript, catchPanic]
    simp only [Res.bind]
    rw [doPrintLoop]
    have hm : p1.buf.mode = .safeEsc := setMode_mode _ _
    simp [hm]
    all_goals first | rfl | (intros; simp_all)

/-- Hence the two routes print the same bytes whenever the inner loop returns. -/
theorem safeformat_route_same_output (env : Env) (he : EnvOk env) (n : Nat) (ms : Methods) (ty : List Byte) (ret : Nat)
    (under : Val) (args : Vals) (ha : ValsOk args) (hsf : ms.safeFormatter = true) (np' : PP)
    (h : doPrintLoop env n p1 args.toList 0 false = .ok np') :
    (doPrint env (n + 8) newPP [.meth ms ty false false false ret (.print args .done) under]).output =
      (doPrint env (n + 1) newPP args.toList).output := by
  have ⟨h1, h2⟩ := safeformat_print_route env n ms ty ret under args hsf np' h
  have hp1 : Pre p1 := ⟨inv_setMode newPP.buf .safeEsc inv_init, by simp [p1, setMode_mode]⟩
  have g := ((spec_all env he n).doPrintLoop p1 args.toList 0 false hp1 (listOk_of_valsOk _ ha)).1 np' h
  have hm : np'.buf.mode = .safeEsc := by rw [g.2.1]; exact setMode_mode _ _
  rw [h1, h2]
  simp only [Res.output]
  rw [setMode_same _ _ hm]

/-- **SafeFormat route, at any common fuel**: once the fuel suffices for the route through the
SafeFormat method, `Sprint(v)` and `Sprint(args...)` print the same. -/
theorem safeformat_route (env : Env) (he : EnvOk env) (n : Nat) (ms : Methods) (ty : List Byte) (ret : Nat)
    (under : Val) (args : Vals) (ha : ValsOk args) (hsf : ms.safeFormatter = true) (np' : PP)
    (h : doPrintLoop env n p1 args.toList 0 false = .ok np') (N : Nat) (hN : n + 8 ≤ N) :
    (doPrint env N newPP [.meth ms ty false false false ret (.print args .done) under]).output =
      (doPrint env N newPP args.toList).output := by
  have ⟨h1, h2⟩ := safeformat_print_route env n ms ty ret under args hsf np' h
  have e := safeformat_route_same_output env he n ms ty ret under args ha hsf np' h
  obtain ⟨k, rfl⟩ : ∃ k, N = n + 8 + k := ⟨N - (n + 8), by omega⟩
  rw [doPrint_fuel env (n + 8) newPP _ _ h2 (by intro hh; cases hh) k]
  have : n + 8 + k = n + 1 + (7 + k) := by omega
  rw [this, doPrint_fuel env (n + 1) newPP _ _ h1 (by intro hh; cases hh) (7 + k)]
  rw [h1, h2] at e
  exact e

/-- `Sprint`'s result does not depend on the model's default fuel: any fuel that yields a result
yields this one. -/
theorem sprint_fuel_irrelevant (env : Env) (args : List Val) (n : Nat) (hn : n ≤ defaultFuel) (r : Res)
    (h : doPrint env n newPP args = r) (hr : r ≠ .fuel) : sprint env args = r := by
  obtain ⟨k, hk⟩ : ∃ k, defaultFuel = n + k := ⟨defaultFuel - n, by omega⟩
  unfold sprint; rw [hk]
  exact doPrint_fuel env n newPP args r h hr k

theorem sprintf_fuel_irrelevant (env : Env) (f : List Byte) (args : List Val) (n : Nat) (hn : n ≤ defaultFuel) (r : Res)
    (h : doPrintf env n newPP f args = r) (hr : r ≠ .fuel) : sprintf env f args = r := by
  obtain ⟨k, hk⟩ : ∃ k, defaultFuel = n + k := ⟨defaultFuel - n, by omega⟩
  unfold sprintf; rw [hk]
  exact doPrintf_fuel env n newPP f args r h hr k

/-- The nested-printer route needs no side condition on clean inputs. -/
theorem nested_print_route_clean (env : Env) (he : EnvOk env) (hc : EnvCl env) (n : Nat) (args : Vals) (ha : ValsOk args)
    (hk : ValsCl args) (q : PP) (h : doPrint env (n + 1) newPP args.toList = .ok q) :
    ∃ q', runScript env (n + 2) newPP (.print args .done) = .ok q' ∧ q'.buf.redactableBytes = q.buf.redactableBytes :=
  nested_print_route env he n args ha q h (doPrint_output_clean env hc (n + 1) _ (listCl_of_valsCl _ hk) q h).2

theorem nested_printf_route_clean (env : Env) (he : EnvOk env) (hc : EnvCl env) (n : Nat) (f : List Byte) (hf : Utf8 f)
    (args : Vals) (ha : ValsOk args) (hk : ValsCl args) (q : PP) (h : doPrintf env (n + 1) newPP f args.toList = .ok q) :
    ∃ q', runScript env (n + 2) newPP (.printf f args .done) = .ok q' ∧ q'.buf.redactableBytes = q.buf.redactableBytes :=
  nested_printf_route env he n f args ha q h
    (doPrintf_output_clean env hc (n + 1) newPP ci_newPP f hf _ (listCl_of_valsCl _ hk) q h).2

end Redact
