import RedactVerif.Props.L2
import RedactVerif.Proofs.Equivar
import RedactVerif.Props.FactsReset
import RedactVerif.Props.FactsSkelPrinter
/-
C12 — a print call's result depends only on its own arguments.

Histories. The pool hands out recycled printers; what a recycled printer still
carries is modelled by `freeP`/`newPrinterP` (print.go `free`, `newPrinter`).
Proved:
* every entry point returns the printer with the override it started with
  (`override_restored_printf`, `override_restored_print`, from the frame theorem) — so a printer that went in with
  `noOverride` is recycled with `noOverride`, whatever user methods, nested
  printers, wrappers and caught panics the call involved;
* a recycled printer equals a fresh one except for the fields `reordered` and
  `goodArgNum` (`recycled_eq_fresh`), and `doPrintf` overwrites both before
  reading them (`doPrintf_ignores_stale`): Sprintf/Fprintf/HelperForErrorf on a
  recycled printer compute exactly what they compute on a fresh one.

* the same for `doPrint`: none of the 16 functions reachable from it depends on the two fields
  (`Proofs/Equivar.lean`, `espec_all`: two runs from printers equal up to these fields end in
  printers equal up to them, at every fuel) — hence `sprint_on_recycled`,
  `sprint_history_independent` and the mixed histories (`sprint_after_sprintf_independent`,
  `sprintf_after_sprint_independent`). The regenerated fact `gen_stale_field_users` says the
  same of the Go code syntactically.

Not a theorem: everything about schedules (sync.Pool, the Go memory model, data races); the
harness explores it (histories followed by probes compared with a fresh process,
pooled printers inspected through the verif hook, 16 goroutines).
-/
namespace Redact

theorem override_restored_printf (env : Env) (he : EnvOk env) (n : Nat) (p : PP) (hp : Pre p) (f : List Byte)
    (args : List Val) (ha : ListOk args) (q : PP) (h : doPrintf env n p f args = .ok q) : q.override = p.override :=
  (doPrintf_out env he n p hp f args ha q h).2

theorem override_restored_print (env : Env) (he : EnvOk env) (n : Nat) (p : PP) (hp : Pre p)
    (args : List Val) (ha : ListOk args) (q : PP) (h : doPrint env n p args = .ok q) : q.override = p.override :=
  (doPrint_out env he n p hp args ha q h).2

/-- `free` after `Take…`: the buffer is reset, the captured error is dropped. -/
def freeP (q : PP) : PP := { q with buf := Buffer.init, wrappedErr := none }

/-- `newPrinter` on a pooled printer: panicking, erroring, wrapErrs and the fmt flags are re-initialised. -/
def newPrinterP (q : PP) : PP := { q with panicking := false, erroring := false, wrapErrs := false, f := {} }

/-- A printer that finished a call with `noOverride` is, once recycled, a fresh
printer up to the two fields that `doPrintf` sets before reading. -/
theorem recycled_eq_fresh (q : PP) (ho : q.override = .no) :
    newPrinterP (freeP q) = { newPP with reordered := q.reordered, goodArgNum := q.goodArgNum } := by
  cases q
  simp_all [newPrinterP, freeP, newPP, Buffer.init]

theorem doPrintf_ignores_stale (env : Env) (n : Nat) (p : PP) (x y : Bool) (f : List Byte) (args : List Val) :
    doPrintf env (n + 2) { p with reordered := x, goodArgNum := y } f args = doPrintf env (n + 2) p f args := by
  by_cases h : p.override = .ovUnsafe <;> simp [doPrintf, fmtLoop, h]

/-- **Sprintf on a recycled printer = Sprintf on a fresh printer**, for every
previous call that ended with `noOverride` (which the frame theorem guarantees). -/
theorem sprintf_on_recycled (env : Env) (q : PP) (ho : q.override = .no) (f : List Byte) (args : List Val) :
    doPrintf env defaultFuel (newPrinterP (freeP q)) f args = sprintf env f args := by
  rw [recycled_eq_fresh q ho]
  exact doPrintf_ignores_stale env _ newPP _ _ f args

/-- End-to-end: after ANY Sprintf call that returned, recycling its printer
and calling Sprintf again gives what a fresh printer gives. -/
theorem sprintf_history_independent (env : Env) (he : EnvOk env) (f₁ : List Byte) (args₁ : List Val)
    (ha : ListOk args₁) (q : PP) (h : sprintf env f₁ args₁ = .ok q) (f₂ : List Byte) (args₂ : List Val) :
    doPrintf env defaultFuel (newPrinterP (freeP q)) f₂ args₂ = sprintf env f₂ args₂ :=
  sprintf_on_recycled env q (override_restored_printf env he _ newPP pre_newPP f₁ args₁ ha q h) f₂ args₂

theorem output_of_relR {r r' : Res} (h : RelR r r') : r'.output = r.output := by
  cases h with
  | ok hq => simp only [Res.output]; rw [hq.buf]
  | panic b pl => rfl
  | fuel => rfl
  | unsupported => rfl

/-- **Sprint on a recycled printer = Sprint on a fresh printer**: `doPrint` and everything it reaches
compute the same whatever the two fields a recycled printer carries over hold (`Proofs/Equivar.lean`:
`espec_all`, for the 16 functions reachable from `doPrint`, at every fuel). -/
theorem sprint_on_recycled (env : Env) (q : PP) (ho : q.override = .no) (args : List Val) :
    (doPrint env defaultFuel (newPrinterP (freeP q)) args).output = (sprint env args).output := by
  rw [recycled_eq_fresh q ho]
  exact output_of_relR ((espec_all env defaultFuel).doPrint newPP _ args ⟨rfl, rfl, rfl, rfl, rfl, rfl, rfl⟩)

/-- End to end: after ANY Sprint or Sprintf call that returned, recycling its printer and calling
Sprint gives what a fresh printer gives. -/
theorem sprint_history_independent (env : Env) (he : EnvOk env) (args₁ : List Val) (ha : ListOk args₁) (q : PP)
    (h : sprint env args₁ = .ok q) (args₂ : List Val) :
    (doPrint env defaultFuel (newPrinterP (freeP q)) args₂).output = (sprint env args₂).output :=
  sprint_on_recycled env q (override_restored_print env he _ newPP pre_newPP args₁ ha q h) args₂

theorem sprint_after_sprintf_independent (env : Env) (he : EnvOk env) (f₁ : List Byte) (args₁ : List Val) (ha : ListOk args₁)
    (q : PP) (h : sprintf env f₁ args₁ = .ok q) (args₂ : List Val) :
    (doPrint env defaultFuel (newPrinterP (freeP q)) args₂).output = (sprint env args₂).output :=
  sprint_on_recycled env q (override_restored_printf env he _ newPP pre_newPP f₁ args₁ ha q h) args₂

theorem sprintf_after_sprint_independent (env : Env) (he : EnvOk env) (args₁ : List Val) (ha : ListOk args₁)
    (q : PP) (h : sprint env args₁ = .ok q) (f₂ : List Byte) (args₂ : List Val) :
    doPrintf env defaultFuel (newPrinterP (freeP q)) f₂ args₂ = sprintf env f₂ args₂ :=
  sprintf_on_recycled env q (override_restored_print env he _ newPP pre_newPP args₁ ha q h) f₂ args₂

end Redact
