import RedactVerif.Generated.Facts
/-
Regenerated facts: the calls, in order, of every method of builder.StringBuilder and of the printer's
SafeWriter adapter in printer_adapter.go (`Model/Writer.lean`: `builderOps`, `adapterStep`).
Extracted from /repo on every run (extract/main.go) and compared here with what the model was
written against (frozen by tools/gen_expect.py after the correspondence had been run). A change
to any of these functions breaks the equality before any input is run: the check then reports the
violation, with a failing input if the harness finds one.
-/
namespace Redact

def expectCallsWriters : List (String × List String) := [("Join", ["JoinTo(&b, delim, s)", "return b.RedactableString()"]),
  ("JoinTo", ["= reflect.ValueOf(values)", "if v.Kind() != reflect.Slice", "w.Print(values)", "return", "= v.Len()", "if i > 0", "w.Print(delim)", "w.Print(v.Index(i).Interface())"]),
  ("StringBuilder.Print", ["b.SetMode(ib.PreRedactable)", "= ifmt.Fprint(&b.Buffer, args...)"]),
  ("StringBuilder.Printf", ["b.SetMode(ib.PreRedactable)", "= ifmt.Fprintf(&b.Buffer, format, args...)"]),
  ("StringBuilder.SafeByte", ["b.SetMode(ib.SafeEscaped)", "= b.Buffer.WriteByte(byte(s))"]),
  ("StringBuilder.SafeBytes", ["b.SetMode(ib.SafeEscaped)", "= b.Buffer.Write([]byte(s))"]),
  ("StringBuilder.SafeFloat", ["b.SetMode(ib.SafeEscaped)", "= ifmt.Fprintf(&b.Buffer, \"%v\", s)"]),
  ("StringBuilder.SafeFormat", ["p.Print(b.RedactableString())"]),
  ("StringBuilder.SafeInt", ["b.SetMode(ib.SafeEscaped)", "= ifmt.Fprintf(&b.Buffer, \"%d\", s)"]),
  ("StringBuilder.SafeRune", ["b.SetMode(ib.SafeEscaped)", "= b.Buffer.WriteRune(rune(s))"]),
  ("StringBuilder.SafeString", ["b.SetMode(ib.SafeEscaped)", "= b.Buffer.WriteString(string(s))"]),
  ("StringBuilder.SafeUint", ["b.SetMode(ib.SafeEscaped)", "= ifmt.Fprintf(&b.Buffer, \"%d\", s)"]),
  ("StringBuilder.UnsafeByte", ["b.SetMode(ib.UnsafeEscaped)", "= b.Buffer.WriteByte(s)"]),
  ("StringBuilder.UnsafeBytes", ["b.SetMode(ib.UnsafeEscaped)", "= b.Buffer.Write(s)"]),
  ("StringBuilder.UnsafeRune", ["b.SetMode(ib.UnsafeEscaped)", "= b.Buffer.WriteRune(s)"]),
  ("StringBuilder.UnsafeString", ["b.SetMode(ib.UnsafeEscaped)", "= b.Buffer.WriteString(s)"]),
  ("StringBuilder.Write", ["b.SetMode(ib.UnsafeEscaped)", "return b.Buffer.Write(s)"]),
  ("StringBuilder.WriteByte", ["b.SetMode(ib.UnsafeEscaped)", "return b.Buffer.WriteByte(c)"]),
  ("StringBuilder.WriteRune", ["b.SetMode(ib.UnsafeEscaped)", "return b.Buffer.WriteRune(r)"]),
  ("StringBuilder.WriteString", ["b.SetMode(ib.UnsafeEscaped)", "return b.Buffer.WriteString(s)"]),
  ("pp.Print", ["defer p.buf.SetMode(p.buf.GetMode())", "= newPrinter()", "defer p.endNested(np)", "np.doPrint(args)"]),
  ("pp.Printf", ["defer p.buf.SetMode(p.buf.GetMode())", "= newPrinter()", "defer p.endNested(np)", "np.doPrintf(format, arg)"]),
  ("pp.SafeByte", ["defer p.startSafeOverride().restore()", "p.buf.WriteByte(byte(r))"]),
  ("pp.SafeBytes", ["defer p.startSafeOverride().restore()", "p.buf.Write(r)"]),
  ("pp.SafeFloat", ["defer p.startSafeOverride().restore()", "p.fmtFloat(float64(s), 64, 'v')"]),
  ("pp.SafeInt", ["defer p.startSafeOverride().restore()", "p.fmtInteger(uint64(s), signed, 'd')"]),
  ("pp.SafeRune", ["defer p.startSafeOverride().restore()", "p.buf.WriteRune(rune(r))"]),
  ("pp.SafeString", ["defer p.startSafeOverride().restore()", "p.buf.WriteString(string(s))"]),
  ("pp.SafeUint", ["defer p.startSafeOverride().restore()", "p.fmtInteger(uint64(s), unsigned, 'd')"]),
  ("pp.UnsafeByte", ["defer p.startUnsafe().restore()", "= p.buf.WriteByte(bb)"]),
  ("pp.UnsafeBytes", ["defer p.startUnsafe().restore()", "= p.buf.Write(bs)"]),
  ("pp.UnsafeRune", ["defer p.startUnsafe().restore()", "= p.buf.WriteRune(r)"]),
  ("pp.UnsafeString", ["defer p.startUnsafe().restore()", "= p.buf.WriteString(s)"]),
  ("pp.endNested", ["np.free()"])]

theorem gen_calls_writers : Gen.callsWriters = expectCallsWriters := rfl

end Redact
